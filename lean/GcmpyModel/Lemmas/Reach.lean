import Mathlib.Logic.Relation
import Mathlib.Data.List.Nodup
import Mathlib.Data.List.Dedup
import GcmpyModel.Model.Graph
import GcmpyModel.Lemmas.ListFacts
/-
Specification of the executable reachability of `Model/Graph.lean`.

`comp es n r` (n rounds of breadth-first expansion from `[r]`) is, for a well-formed graph with `n` vertices,
exactly the set of vertices reachable from `r` along (undirected) edges: `mem_comp_iff`.
Consequences: `lccSize` is the size of a largest reachability class, `connected` is pairwise reachability.
-/
namespace Gcmpy.Graph

def Adj (es : List Edge) (a b : Nat) : Prop := (a, b) ∈ es ∨ (b, a) ∈ es

def Reach (es : List Edge) (r v : Nat) : Prop := Relation.ReflTransGen (Adj es) r v

def WFGraph (es : List Edge) (nodes : List Nat) : Prop :=
  nodes.Nodup ∧ ∀ e ∈ es, e.1 ∈ nodes ∧ e.2 ∈ nodes

def Closed (es : List Edge) (s : List Nat) : Prop := ∀ a ∈ s, ∀ b, Adj es a b → b ∈ s

theorem WFGraph.mono {es es' : List Edge} {nodes : List Nat} (h : WFGraph es nodes) (hsub : es' ⊆ es) :
    WFGraph es' nodes :=
  ⟨h.1, fun e he => h.2 e (hsub he)⟩

theorem wf_of_lt {es : List Edge} {n : Nat} (h : ∀ e ∈ es, e.1 < e.2 ∧ e.2 < n) : WFGraph es (List.range n) :=
  ⟨List.nodup_range,
    fun e he => ⟨List.mem_range.2 (Nat.lt_trans (h e he).1 (h e he).2), List.mem_range.2 (h e he).2⟩⟩

/-- the model's `dedup` is Mathlib's `List.dedup` (both keep the last occurrence) -/
theorem dedup_eq (l : List Nat) : dedup l = l.dedup := by
  induction l with
  | nil => rfl
  | cons x xs ih =>
    rw [dedup, ih]
    split_ifs with h
    · rw [List.dedup_cons_of_mem h]
    · rw [List.dedup_cons_of_notMem h]

@[simp] theorem mem_dedup {x : Nat} {l : List Nat} : x ∈ dedup l ↔ x ∈ l := by
  rw [dedup_eq, List.mem_dedup]

theorem nodup_dedup (l : List Nat) : (dedup l).Nodup := by
  rw [dedup_eq]
  exact List.nodup_dedup l

theorem dedup_eq_self {l : List Nat} (h : l.Nodup) : dedup l = l := by
  rw [dedup_eq, h.dedup]

theorem mem_nbrs {es : List Edge} {a b : Nat} : b ∈ nbrs es a ↔ Adj es a b := by
  simp only [nbrs, Adj, List.mem_flatMap, List.mem_append, Prod.exists, List.mem_ite_nil_right,
    List.mem_singleton]
  constructor
  · rintro ⟨x, y, hxy, ⟨rfl, rfl⟩ | ⟨rfl, rfl⟩⟩
    exacts [Or.inl hxy, Or.inr hxy]
  · rintro (h | h)
    exacts [⟨a, b, h, Or.inl ⟨rfl, rfl⟩⟩, ⟨b, a, h, Or.inr ⟨rfl, rfl⟩⟩]

theorem Adj.symm {es : List Edge} {a b : Nat} (h : Adj es a b) : Adj es b a := Or.symm h

theorem Adj.mono {es es' : List Edge} (hsub : es ⊆ es') {a b : Nat} (h : Adj es a b) : Adj es' a b :=
  h.imp (fun h => hsub h) (fun h => hsub h)

theorem Adj.mem_nodes {es : List Edge} {nodes : List Nat} (h : WFGraph es nodes) {a b : Nat}
    (hab : Adj es a b) : a ∈ nodes ∧ b ∈ nodes := by
  rcases hab with hab | hab
  · exact h.2 _ hab
  · exact (h.2 _ hab).symm

theorem Reach.refl (es : List Edge) (a : Nat) : Reach es a a := Relation.ReflTransGen.refl

theorem Reach.single {es : List Edge} {a b : Nat} (h : Adj es a b) : Reach es a b :=
  Relation.ReflTransGen.single h

theorem Reach.trans {es : List Edge} {a b c : Nat} (h₁ : Reach es a b) (h₂ : Reach es b c) :
    Reach es a c := Relation.ReflTransGen.trans h₁ h₂

theorem Reach.symm {es : List Edge} {a b : Nat} (h : Reach es a b) : Reach es b a := by
  induction h with
  | refl => exact Reach.refl _ _
  | tail _ hbc ih => exact Reach.trans (Reach.single hbc.symm) ih

theorem Reach.mono {es es' : List Edge} (hsub : es ⊆ es') {a b : Nat} (h : Reach es a b) :
    Reach es' a b :=
  Relation.ReflTransGen.mono (fun _ _ hab => hab.mono hsub) _ _ h

theorem Reach.mem_nodes {es : List Edge} {nodes : List Nat} (h : WFGraph es nodes) {a b : Nat}
    (hab : Reach es a b) (ha : a ∈ nodes) : b ∈ nodes := by
  induction hab with
  | refl => exact ha
  | tail _ hbc _ => exact (hbc.mem_nodes h).2

theorem Closed.mem_of_reach {es : List Edge} {s : List Nat} (hc : Closed es s) {r v : Nat} (hr : r ∈ s)
    (h : Reach es r v) : v ∈ s := by
  induction h with
  | refl => exact hr
  | tail _ hbc ih => exact hc _ ih _ hbc

theorem mem_expand {es : List Edge} {s : List Nat} {v : Nat} :
    v ∈ expand es s ↔ v ∈ s ∨ ∃ a ∈ s, Adj es a v := by
  unfold expand
  simp only [mem_dedup, List.mem_append, List.mem_flatMap, mem_nbrs]

theorem subset_expand (es : List Edge) (s : List Nat) : s ⊆ expand es s :=
  fun _ hv => mem_expand.2 (Or.inl hv)

theorem nodup_expand (es : List Edge) (s : List Nat) : (expand es s).Nodup := nodup_dedup _

/-- kept by `expand`, hence by `closure`: the induction over the rounds -/
theorem closure_induction {es : List Edge} {P : List Nat → Prop} (h : ∀ s, P s → P (expand es s)) (k : Nat) :
    ∀ {s : List Nat}, P s → P (closure es k s) := by
  induction k with
  | zero => exact id
  | succ k ih => exact fun hs => ih (h _ hs)

theorem subset_closure (es : List Edge) (k : Nat) (s : List Nat) : s ⊆ closure es k s :=
  closure_induction (P := (s ⊆ ·)) (fun t h _ hx => subset_expand es t (h hx)) k fun _ hx => hx

theorem closure_nodup {es : List Edge} {s : List Nat} (hs : s.Nodup) (k : Nat) :
    (closure es k s).Nodup :=
  closure_induction (fun t _ => nodup_expand es t) k hs

theorem closure_sound {es : List Edge} {k : Nat} {s : List Nat} {v : Nat}
    (hv : v ∈ closure es k s) : ∃ r ∈ s, Reach es r v := by
  induction k generalizing s with
  | zero => exact ⟨v, hv, Reach.refl _ _⟩
  | succ k ih =>
    obtain ⟨a, ha, hav⟩ := ih (s := expand es s) hv
    rcases mem_expand.1 ha with ha | ⟨b, hb, hba⟩
    · exact ⟨a, ha, hav⟩
    · exact ⟨b, hb, (Reach.single hba).trans hav⟩

theorem closure_subset_nodes {es : List Edge} {nodes : List Nat} (h : WFGraph es nodes) {s : List Nat}
    (hs : s ⊆ nodes) (k : Nat) : closure es k s ⊆ nodes := by
  intro v hv
  obtain ⟨r, hr, hrv⟩ := closure_sound hv
  exact hrv.mem_nodes h (hs hr)

theorem Closed.mem_expand_iff {es : List Edge} {s : List Nat} (hc : Closed es s) {v : Nat} :
    v ∈ expand es s ↔ v ∈ s := by
  rw [mem_expand]
  constructor
  · rintro (h | ⟨a, ha, hav⟩)
    · exact h
    · exact hc a ha v hav
  · exact Or.inl

theorem Closed.expand {es : List Edge} {s : List Nat} (hc : Closed es s) : Closed es (expand es s) :=
  fun a ha b hab => hc.mem_expand_iff.2 (hc a (hc.mem_expand_iff.1 ha) b hab)

theorem Closed.closure {es : List Edge} {s : List Nat} (hc : Closed es s) (k : Nat) :
    Closed es (closure es k s) ∧ ∀ v, v ∈ closure es k s ↔ v ∈ s :=
  closure_induction (P := fun t => Closed es t ∧ ∀ v, v ∈ t ↔ v ∈ s)
    (fun _ h => ⟨h.1.expand, fun v => h.1.mem_expand_iff.trans (h.2 v)⟩) k ⟨hc, fun _ => Iff.rfl⟩

theorem closed_or_grow {es : List Edge} {s : List Nat} (hs : s.Nodup) :
    Closed es s ∨ s.length + 1 ≤ (expand es s).length := by
  by_cases hc : Closed es s
  · exact Or.inl hc
  · right
    unfold Closed at hc
    simp only [not_forall] at hc
    obtain ⟨a, ha, b, hab, hb⟩ := hc
    have hnd : (b :: s).Nodup := List.nodup_cons.2 ⟨hb, hs⟩
    have hsub : (b :: s) ⊆ expand es s := by
      intro v hv
      rcases List.mem_cons.1 hv with rfl | hv
      · exact mem_expand.2 (Or.inr ⟨a, ha, hab⟩)
      · exact subset_expand _ _ hv
    simpa using hnd.length_le_of_subset hsub

/-- the fuel argument: after `k` rounds the visited list is closed or has gained at least `k` vertices -/
theorem closed_or_length {es : List Edge} {s : List Nat} (hs : s.Nodup) (k : Nat) :
    Closed es (closure es k s) ∨ s.length + k ≤ (closure es k s).length := by
  induction k generalizing s with
  | zero => exact Or.inr (Nat.le_refl _)
  | succ k ih =>
    rcases closed_or_grow (es := es) hs with hc | hg
    · exact Or.inl (hc.closure (k+1)).1
    · rcases ih (nodup_expand es s) with hc | hl
      · exact Or.inl hc
      · right
        rw [closure]
        omega

theorem closure_closed {es : List Edge} {nodes : List Nat} (h : WFGraph es nodes) {s : List Nat}
    (hs : s.Nodup) (hsub : s ⊆ nodes) (hne : s ≠ []) {k : Nat} (hk : nodes.length ≤ k) :
    Closed es (closure es k s) := by
  rcases closed_or_length (es := es) hs k with hc | hl
  · exact hc
  · exfalso
    have h1 : (closure es k s).length ≤ nodes.length :=
      (closure_nodup hs k).length_le_of_subset (closure_subset_nodes h hsub k)
    have h2 : 0 < s.length := List.length_pos_iff.2 hne
    omega

theorem mem_closure_iff {es : List Edge} {nodes : List Nat} (h : WFGraph es nodes) {s : List Nat}
    (hs : s.Nodup) (hsub : s ⊆ nodes) {k : Nat} (hk : nodes.length ≤ k) {v : Nat} :
    v ∈ closure es k s ↔ ∃ r ∈ s, Reach es r v := by
  constructor
  · exact closure_sound
  · rintro ⟨r, hr, hrv⟩
    have hne : s ≠ [] := List.ne_nil_of_mem hr
    exact (closure_closed h hs hsub hne hk).mem_of_reach (subset_closure es k s hr) hrv

theorem singleton_subset_of_mem {r : Nat} {nodes : List Nat} (hr : r ∈ nodes) : [r] ⊆ nodes :=
  List.cons_subset.2 ⟨hr, List.nil_subset _⟩

theorem self_mem_comp (es : List Edge) (n r : Nat) : r ∈ comp es n r :=
  subset_closure es n [r] (List.mem_singleton.2 rfl)

theorem mem_comp_succ_of_adj {es : List Edge} {a b : Nat} (h : Adj es a b) (n : Nat) : b ∈ comp es (n+1) a :=
  subset_closure es n _ (mem_expand.2 (Or.inr ⟨a, List.mem_singleton.2 rfl, h⟩))

theorem comp_nodup (es : List Edge) (n r : Nat) : (comp es n r).Nodup :=
  closure_nodup (List.nodup_singleton r) n

theorem comp_sound {es : List Edge} {n r v : Nat} (hv : v ∈ comp es n r) : Reach es r v := by
  obtain ⟨r', hr', h⟩ := closure_sound hv
  rw [List.mem_singleton.1 hr'] at h
  exact h

theorem comp_subset_nodes {es : List Edge} {nodes : List Nat} (h : WFGraph es nodes) {r : Nat}
    (hr : r ∈ nodes) (n : Nat) : comp es n r ⊆ nodes :=
  closure_subset_nodes h (singleton_subset_of_mem hr) n

theorem mem_comp_iff_of_le {es : List Edge} {nodes : List Nat} (h : WFGraph es nodes) {r : Nat}
    (hr : r ∈ nodes) {n : Nat} (hn : nodes.length ≤ n) {v : Nat} :
    v ∈ comp es n r ↔ Reach es r v := by
  unfold comp
  rw [mem_closure_iff h (List.nodup_singleton r) (singleton_subset_of_mem hr) hn]
  simp only [List.mem_singleton, exists_eq_left]

/-- with fuel = number of vertices, `comp` is exactly the reachability class of `r` (C18 and C15 rest on this) -/
theorem mem_comp_iff {es : List Edge} {nodes : List Nat} (h : WFGraph es nodes) {r : Nat}
    (hr : r ∈ nodes) {v : Nat} : v ∈ comp es nodes.length r ↔ Reach es r v :=
  mem_comp_iff_of_le h hr (Nat.le_refl _)

theorem comp_length_le {es : List Edge} {nodes : List Nat} (h : WFGraph es nodes) {r : Nat}
    (hr : r ∈ nodes) (n : Nat) : (comp es n r).length ≤ nodes.length :=
  (comp_nodup es n r).length_le_of_subset (comp_subset_nodes h hr n)

theorem comp_length_pos (es : List Edge) (n r : Nat) : 1 ≤ (comp es n r).length :=
  List.length_pos_of_mem (self_mem_comp es n r)

theorem comp_length_eq {es : List Edge} {nodes : List Nat} (h : WFGraph es nodes) {r : Nat}
    (hr : r ∈ nodes) {l : List Nat} (hl : l.Nodup) (hmem : ∀ v, v ∈ l ↔ Reach es r v) :
    (comp es nodes.length r).length = l.length := by
  apply List.Perm.length_eq
  rw [List.perm_ext_iff_of_nodup (comp_nodup _ _ _) hl]
  intro v
  rw [mem_comp_iff h hr, hmem]

theorem comp_length_eq_of_reach {es : List Edge} {nodes : List Nat} (h : WFGraph es nodes) {u v : Nat}
    (hu : u ∈ nodes) (huv : Reach es u v) :
    (comp es nodes.length u).length = (comp es nodes.length v).length := by
  have hv : v ∈ nodes := huv.mem_nodes h hu
  apply comp_length_eq h hu (comp_nodup _ _ _)
  intro w
  rw [mem_comp_iff h hv]
  exact ⟨fun hvw => huv.trans hvw, fun huw => huv.symm.trans huw⟩

theorem comp_of_isolated {es : List Edge} {v : Nat} (h : ∀ w, ¬ Adj es v w) (n : Nat) : comp es n v = [v] := by
  have hexp : expand es [v] = [v] := by
    rw [expand, List.flatMap_singleton, List.eq_nil_iff_forall_not_mem.2 fun w hw => h w (mem_nbrs.1 hw)]
    rfl
  exact closure_induction (P := (· = [v])) (fun _ e => e ▸ hexp) n rfl

theorem comp_nil_edges (n r : Nat) : comp [] n r = [r] :=
  comp_of_isolated (fun _ h => h.elim List.not_mem_nil List.not_mem_nil) n

theorem lccSize_spec (es : List Edge) (nodes : List Nat) :
    (nodes ≠ [] → ∃ v ∈ nodes, lccSize es nodes = (comp es nodes.length v).length) ∧
    ∀ v ∈ nodes, (comp es nodes.length v).length ≤ lccSize es nodes := by
  have key := List.foldl_max_zero_spec (nodes.map fun v => (comp es nodes.length v).length)
  exact ⟨fun hne => (List.mem_map.1 (key.1 (mt List.map_eq_nil_iff.1 hne))).imp fun v h => ⟨h.1, h.2.symm⟩,
    fun v hv => key.2 _ (List.mem_map_of_mem hv)⟩

theorem lccSize_nil (es : List Edge) : lccSize es [] = 0 := rfl

theorem lccSize_pos_le {es : List Edge} {nodes : List Nat} (h : WFGraph es nodes) (hne : nodes ≠ []) :
    1 ≤ lccSize es nodes ∧ lccSize es nodes ≤ nodes.length := by
  obtain ⟨h1, _⟩ := lccSize_spec es nodes
  obtain ⟨v, hv, hveq⟩ := h1 hne
  rw [hveq]
  exact ⟨comp_length_pos _ _ _, comp_length_le h hv _⟩

theorem lccSize_eq {es : List Edge} {nodes : List Nat} {m : Nat}
    (hatt : ∃ v ∈ nodes, (comp es nodes.length v).length = m)
    (hub : ∀ v ∈ nodes, (comp es nodes.length v).length ≤ m) : lccSize es nodes = m := by
  obtain ⟨h1, h2⟩ := lccSize_spec es nodes
  obtain ⟨v, hv, hveq⟩ := hatt
  obtain ⟨w, hw, hweq⟩ := h1 (List.ne_nil_of_mem hv)
  have := h2 v hv
  have := hub w hw
  omega

theorem lccSize_no_edges {nodes : List Nat} (hne : nodes ≠ []) : lccSize [] nodes = 1 := by
  obtain ⟨v, hv⟩ := List.exists_mem_of_ne_nil nodes hne
  apply lccSize_eq ⟨v, hv, by rw [comp_nil_edges]; rfl⟩
  intro w _
  rw [comp_nil_edges]
  exact Nat.le_refl _

theorem connected_iff {es : List Edge} {nodes : List Nat} (h : WFGraph es nodes) (hne : nodes ≠ []) :
    connected es nodes = true ↔ ∀ u ∈ nodes, ∀ v ∈ nodes, Reach es u v := by
  obtain ⟨r, rest, rfl⟩ := List.exists_cons_of_ne_nil hne
  have hr : r ∈ r :: rest := List.mem_cons_self
  simp only [connected, List.all_eq_true, decide_eq_true_eq]
  exact ⟨fun hall u hu v hv =>
      ((mem_comp_iff h hr).1 (hall u hu)).symm.trans ((mem_comp_iff h hr).1 (hall v hv)),
    fun hall v hv => (mem_comp_iff h hr).2 (hall r hr v hv)⟩

theorem connected_nil (es : List Edge) : connected es [] = false := rfl

example : WFGraph [(0,1), (1,2), (3,4)] [0,1,2,3,4] := by unfold WFGraph; decide +kernel
example : comp [(0,1), (1,2), (3,4)] 5 2 = [0, 2, 1] := by decide +kernel
example : lccSize [(0,1), (1,2), (3,4)] [0,1,2,3,4] = 3 := by decide +kernel
example : connected [(0,1), (1,2), (3,4)] [0,1,2,3,4] = false := by decide +kernel
example : connected [(0,1), (1,2), (3,4), (2,3)] [0,1,2,3,4] = true := by decide +kernel
/-- fuel below the number of vertices can be insufficient (path 0-1-2-3, two rounds from 0) -/
example : 3 ∉ comp [(0,1), (1,2), (2,3)] 2 0 := by decide +kernel
end Gcmpy.Graph
