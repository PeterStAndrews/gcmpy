import GcmpyModel.Model.Cover
import GcmpyModel.Lemmas.ListFacts
/-!
Lemmas for property C08 (`JointDegreeCover`), with the definitions its statements are phrased in (`Contiguous`,
`cliqueCount`, `entry`, `Shape`).  Each round of the counting loops adds a unit matrix (`foldlM_adds`), so the table
before the deletion is `cliqueCount` (`counts_spec`).  A row is `range` mapped and `eraseIdx` commutes with
`map`, so deleting ascending column indices from the right is a filter over `range` (`foldr_eraseIdx_range`).  A
column is all zero iff its size does not occur (`zeroCol_iff`), so what is kept is `motifSizes` shifted down by one
(`kept_eq_map`).  Core Lean only.
-/
namespace Gcmpy.Cover
open Gcmpy Gcmpy.Loaders

/-- vertex ids are exactly z, z+1, …, z+n-1 for z ∈ {0,1} (contiguous from 0 or 1) and every clique is
non-empty -/
def Contiguous (cover : List (List Nat)) (z n : Nat) : Prop :=
  (z = 0 ∨ z = 1) ∧ 0 < n ∧ (∀ c ∈ cover, c ≠ []) ∧ cover ≠ [] ∧
    ∀ v, (∃ c ∈ cover, v ∈ c) ↔ (z ≤ v ∧ v < z + n)

/-- number of cover cliques of size s containing v, counted with multiplicity of v inside a clique
(a proper clique lists a vertex once) -/
def cliqueCount (cover : List (List Nat)) (s v : Nat) : Nat :=
  ((cover.filter (fun c => c.length = s)).map (fun c => c.count v)).sum

/-- entry of a table of rows, total: `0` outside the table -/
abbrev entry (jds : List (List Nat)) (r c : Nat) : Nat := (jds.getD r []).getD c 0

namespace Contiguous
variable {cover : List (List Nat)} {z n : Nat} (h : Contiguous cover z n)
include h

theorem base : z = 0 ∨ z = 1 := h.1

theorem pos : 0 < n := h.2.1

theorem clique_ne_nil : ∀ c ∈ cover, c ≠ [] := h.2.2.1

theorem mem_iff (v : Nat) : (∃ c ∈ cover, v ∈ c) ↔ z ≤ v ∧ v < z + n := h.2.2.2.2 v

end Contiguous

theorem mem_vertexIds {cover : List (List Nat)} {v : Nat} :
    v ∈ vertexIds cover ↔ ∃ c ∈ cover, v ∈ c := by
  simp [vertexIds, List.mem_eraseDups, List.mem_flatten]

theorem vertexIds_perm {cover : List (List Nat)} {z n : Nat} (h : Contiguous cover z n) :
    (vertexIds cover).Perm (List.range' z n) := by
  refine (List.perm_ext_iff_of_nodup (List.nodup_eraseDups _) (List.nodup_range' 1)).2 ?_
  intro a
  show a ∈ vertexIds cover ↔ _
  rw [mem_vertexIds, h.mem_iff a, List.mem_range'_1]

theorem insertSorted_cons (x y : Nat) (ys : List Nat) :
    insertSorted x (y :: ys) =
      if x < y then x :: y :: ys else if x = y then y :: ys else y :: insertSorted x ys := rfl

theorem motifSizes_cons (c : List Nat) (cs : List (List Nat)) :
    motifSizes (c :: cs) = insertSorted c.length (motifSizes cs) := rfl

theorem mem_insertSorted {x y : Nat} {l : List Nat} : y ∈ insertSorted x l ↔ y = x ∨ y ∈ l := by
  induction l with
  | nil => simp [insertSorted]
  | cons a as ih =>
    rw [insertSorted_cons]
    split
    · simp
    · split
      · next h => subst h; simp
      · simp only [List.mem_cons, ih]; exact or_left_comm

theorem pairwise_insertSorted {x : Nat} {l : List Nat} (hl : l.Pairwise (· < ·)) :
    (insertSorted x l).Pairwise (· < ·) := by
  induction l with
  | nil => simp [insertSorted]
  | cons a as ih =>
    rw [insertSorted_cons]
    split
    · next h =>
      rw [List.pairwise_cons]
      refine ⟨?_, hl⟩
      intro b hb
      rw [List.pairwise_cons] at hl
      rcases List.mem_cons.1 hb with rfl | hb
      · exact h
      · exact Nat.lt_trans h (hl.1 b hb)
    · split
      · exact hl
      · next h1 h2 =>
        rw [List.pairwise_cons] at hl ⊢
        refine ⟨?_, ih hl.2⟩
        intro b hb
        rcases mem_insertSorted.1 hb with rfl | hb
        · omega
        · exact hl.1 b hb

theorem motifSizes_pairwise (cover : List (List Nat)) : (motifSizes cover).Pairwise (· < ·) := by
  induction cover with
  | nil => exact List.Pairwise.nil
  | cons c cs ih => exact motifSizes_cons c cs ▸ pairwise_insertSorted ih

theorem mem_motifSizes {cover : List (List Nat)} {s : Nat} :
    s ∈ motifSizes cover ↔ ∃ c ∈ cover, c.length = s := by
  induction cover with
  | nil => simp [motifSizes]
  | cons c cs ih =>
    simp only [motifSizes_cons, mem_insertSorted, ih, List.mem_cons, exists_eq_or_imp, eq_comm (a := s)]

theorem length_le_largest {cover : List (List Nat)} {c : List Nat} (hc : c ∈ cover) :
    c.length ≤ largest cover :=
  (List.foldl_max_zero_spec _).2 _ (List.mem_map_of_mem hc)

def Shape (jds : List (List Nat)) (n L : Nat) : Prop :=
  jds.length = n ∧ ∀ (i : Nat) (r : List Nat), jds[i]? = some r → r.length = L

theorem Shape.mem_length {jds : List (List Nat)} {n L : Nat} (hs : Shape jds n L) :
    ∀ r ∈ jds, r.length = L := by
  intro r hr
  obtain ⟨i, hi⟩ := List.mem_iff_getElem?.1 hr
  exact hs.2 i r hi

def unitAt (row col r c : Nat) : Nat := if r = row ∧ c = col then 1 else 0

theorem bumpAt_spec {jds : List (List Nat)} {n L row col : Nat} (hs : Shape jds n L)
    (hr : row < n) (hc : col < L) :
    ∃ jds', bumpAt jds row col = some jds' ∧ Shape jds' n L ∧
      ∀ r c, entry jds' r c = entry jds r c + unitAt row col r c := by
  obtain ⟨hn, hL⟩ := hs
  have hlt : row < jds.length := hn ▸ hr
  have hrow : jds[row]? = some jds[row] := List.getElem?_eq_getElem hlt
  have hlen := hL _ _ hrow
  refine ⟨jds.set row (jds[row].modify col (· + 1)), ?_, ⟨by simp [hn], fun i r hi => ?_⟩, fun r c => ?_⟩
  · simp only [bumpAt, hrow]
    rw [if_pos (hlen ▸ hc)]
  · rw [List.getElem?_set] at hi
    split at hi
    · cases hi
      rw [List.length_modify, hlen]
    · exact hL _ _ hi
  · simp only [entry, unitAt, List.getD_eq_getElem?_getD, List.getElem?_set]
    by_cases h1 : row = r
    · subst h1
      by_cases h2 : col = c
      · subst h2
        simp [hlt, List.getElem?_eq_getElem (hlen ▸ hc)]
      · simp [hlt, h2, Ne.symm h2]
    · simp [h1, Ne.symm h1]

/-- a loop `for a in l: jds = step(jds, a)` each round of which succeeds on an item that is `ok` and adds `δ a`
    entry-wise, succeeds on a list of such items and adds their sum -/
theorem foldlM_adds {α : Type} {n L : Nat} {step : List (List Nat) → α → Option (List (List Nat))}
    {δ : α → Nat → Nat → Nat} {ok : α → Prop}
    (hstep : ∀ a jds, ok a → Shape jds n L → ∃ jds', step jds a = some jds' ∧ Shape jds' n L ∧
      ∀ r c, entry jds' r c = entry jds r c + δ a r c) :
    ∀ (l : List α) (jds : List (List Nat)), (∀ a ∈ l, ok a) → Shape jds n L →
      ∃ jds', l.foldlM step jds = some jds' ∧ Shape jds' n L ∧
        ∀ r c, entry jds' r c = entry jds r c + (l.map fun a => δ a r c).sum := by
  intro l
  induction l with
  | nil => exact fun jds _ hs => ⟨jds, rfl, hs, fun _ _ => rfl⟩
  | cons a l ih =>
    intro jds hok hs
    rw [List.forall_mem_cons] at hok
    obtain ⟨j1, e1, s1, f1⟩ := hstep a jds hok.1 hs
    obtain ⟨j2, e2, s2, f2⟩ := ih j1 hok.2 s1
    exact ⟨j2, by rw [List.foldlM_cons, e1]; exact e2, s2, fun r c => by
      rw [f2, f1, List.map_cons, List.sum_cons, Nat.add_assoc]⟩

theorem countClique_eq_foldlM (z size : Nat) (vs : List Nat) (jds : List (List Nat)) :
    countClique z size vs jds = vs.foldlM (fun jds v => bumpAt jds (v - z) (size - 1)) jds := by
  induction vs generalizing jds with
  | nil => rfl
  | cons v vs ih => rw [countClique, List.foldlM_cons]; cases bumpAt jds (v - z) (size - 1) <;> simp [ih]

theorem countAll_eq_foldlM (z : Nat) (cs : List (List Nat)) (jds : List (List Nat)) :
    countAll z cs jds = cs.foldlM (fun jds c => countClique z c.length c jds) jds := by
  induction cs generalizing jds with
  | nil => rfl
  | cons c cs ih => rw [countAll, List.foldlM_cons]; cases countClique z c.length c jds <;> simp [ih]

theorem cliqueCount_cons (q : List Nat) (qs : List (List Nat)) (s v : Nat) :
    cliqueCount (q :: qs) s v = (if q.length = s then q.count v else 0) + cliqueCount qs s v := by
  unfold cliqueCount
  by_cases h : q.length = s <;> simp [h]

theorem cliqueCount_eq_sum (cover : List (List Nat)) (s v : Nat) :
    cliqueCount cover s v = (cover.map fun q => if q.length = s then q.count v else 0).sum := by
  induction cover with
  | nil => rfl
  | cons q qs ih => rw [cliqueCount_cons, ih, List.map_cons, List.sum_cons]

theorem cliqueCount_pos_iff {cover : List (List Nat)} {s v : Nat} :
    0 < cliqueCount cover s v ↔ ∃ q ∈ cover, q.length = s ∧ v ∈ q := by
  induction cover with
  | nil => simp [cliqueCount]
  | cons a as ih =>
    rw [cliqueCount_cons, Nat.add_pos_iff_pos_or_pos, ih]
    simp only [List.mem_cons, exists_eq_or_imp]
    refine or_congr_left ?_
    split
    · next h => rw [List.count_pos_iff]; exact (and_iff_right h).symm
    · next h => exact ⟨fun h0 => absurd h0 (Nat.lt_irrefl 0), fun h' => absurd h'.1 h⟩

/-- what one clique adds to the entry of vertex `r + z`: its occurrences of that vertex, in its own column -/
theorem sum_unitAt {z : Nat} (col r c : Nat) (q : List Nat) (hq : ∀ w ∈ q, z ≤ w) :
    (q.map fun w => unitAt (w - z) col r c).sum = if c = col then q.count (r + z) else 0 := by
  induction q with
  | nil => simp
  | cons a as ih =>
    rw [List.forall_mem_cons] at hq
    rw [List.map_cons, List.sum_cons, ih hq.2, unitAt, List.count_cons]
    by_cases hc : c = col
    · by_cases ha : a = r + z
      · subst ha; simp [hc, Nat.add_comm]
      · have : ¬ r = a - z := by omega
        simp [hc, ha, this]
    · simp [hc]

theorem shape_replicate (n L : Nat) : Shape (List.replicate n (List.replicate L 0)) n L := by
  refine ⟨by simp, ?_⟩
  intro i r h
  rw [List.getElem?_replicate] at h
  split at h
  · cases h; simp
  · cases h

theorem entry_replicate (n L r c : Nat) : entry (List.replicate n (List.replicate L 0)) r c = 0 := by
  simp only [entry, List.getD_eq_getElem?_getD, List.getElem?_replicate]
  split
  · simp only [Option.getD_some, List.getElem?_replicate]
    split <;> rfl
  · rfl

theorem Contiguous.clique_ok {cover : List (List Nat)} {z n : Nat} (h : Contiguous cover z n) :
    ∀ q ∈ cover, 1 ≤ q.length ∧ q.length ≤ largest cover ∧ ∀ v ∈ q, z ≤ v ∧ v < z + n := by
  intro q hq
  refine ⟨List.length_pos_iff.2 (h.clique_ne_nil q hq), length_le_largest hq, ?_⟩
  intro v hv
  exact (h.mem_iff v).1 ⟨q, hq, hv⟩

theorem countClique_spec {z n L : Nat} (q : List Nat) (jds : List (List Nat)) (hs : Shape jds n L)
    (hq : 1 ≤ q.length ∧ q.length ≤ L ∧ ∀ v ∈ q, z ≤ v ∧ v < z + n) :
    ∃ jds', countClique z q.length q jds = some jds' ∧ Shape jds' n L ∧
      ∀ r c, entry jds' r c = entry jds r c + if q.length = c + 1 then q.count (r + z) else 0 := by
  rw [countClique_eq_foldlM]
  obtain ⟨j, e, s, f⟩ := foldlM_adds (n := n) (L := L) (ok := fun v => z ≤ v ∧ v < z + n)
    (fun v jds hv hs => bumpAt_spec (row := v - z) (col := q.length - 1) hs (by omega) (by omega))
    q jds hq.2.2 hs
  refine ⟨j, e, s, fun r c => ?_⟩
  have h1 : 1 ≤ q.length := hq.1
  have : c = q.length - 1 ↔ q.length = c + 1 := by omega
  rw [f, sum_unitAt _ r c q fun w hw => (hq.2.2 w hw).1]
  simp only [this]

/-- the counters before the column deletion: row `r` belongs to vertex `r + z`, column `c` to size `c + 1` -/
theorem counts_spec {cover : List (List Nat)} {z n : Nat} (h : Contiguous cover z n) :
    ∃ jds0, countAll z cover (List.replicate n (List.replicate (largest cover) 0)) = some jds0 ∧
      Shape jds0 n (largest cover) ∧
      ∀ r c, entry jds0 r c = cliqueCount cover (c + 1) (r + z) := by
  rw [countAll_eq_foldlM]
  obtain ⟨j, e, s, f⟩ := foldlM_adds (δ := fun q r c => if q.length = c + 1 then q.count (r + z) else 0)
    (fun q jds hq hs => countClique_spec q jds hs hq) cover _ h.clique_ok (shape_replicate n (largest cover))
  exact ⟨j, e, s, fun r c => by rw [f, entry_replicate, Nat.zero_add, cliqueCount_eq_sum]⟩

theorem dropCols_eq_map (rows : List (List Nat)) (cols : List Nat) :
    dropCols rows cols = rows.map fun r => cols.foldr (fun i r => r.eraseIdx i) r := by
  unfold dropCols
  rw [List.foldl_reverse]
  induction cols with
  | nil => simp
  | cons c cs ih => simp only [List.foldr_cons, ih, List.map_map]; rfl

section
open List

theorem foldr_eraseIdx_map {α β : Type} (g : α → β) (cols : List Nat) (l : List α) :
    cols.foldr (fun i r => r.eraseIdx i) (l.map g) = (cols.foldr (fun i r => r.eraseIdx i) l).map g :=
  foldr_hom (map g) fun i r => by
    rw [eraseIdx_eq_take_drop_succ, eraseIdx_eq_take_drop_succ, map_append, map_take, map_drop]

/-- deleting position `c` from a filtered `range L` that still has all of `0 … c` removes the number `c` -/
theorem eraseIdx_filter_range {L c : Nat} {p : Nat → Bool} (hc : c < L) (hp : ∀ i, i ≤ c → p i = true) :
    ((range L).filter p).eraseIdx c = (range L).filter fun i => p i && i != c := by
  obtain ⟨m, rfl⟩ : ∃ m, L = c + 1 + m := ⟨L - (c + 1), by omega⟩
  have h1 : (range c).filter p = range c := filter_eq_self.2 fun i hi => hp i (Nat.le_of_lt (mem_range.1 hi))
  have h2 : (range c).filter (fun i => p i && i != c) = range c :=
    filter_eq_self.2 fun i hi => by
      have := mem_range.1 hi
      simp [hp i (Nat.le_of_lt this), Nat.ne_of_lt this]
  have h3 : ((range m).map (c + 1 + ·)).filter (fun i => p i && i != c) = ((range m).map (c + 1 + ·)).filter p :=
    filter_congr fun i hi => by
      obtain ⟨j, _, rfl⟩ := mem_map.1 hi
      simp [show c + 1 + j ≠ c by omega]
  rw [range_add, range_succ, filter_append, filter_append, filter_append, filter_append, h1, h2, h3,
    append_assoc, eraseIdx_append_of_length_le (by simp)]
  simp [hp c (Nat.le_refl c)]

theorem foldr_eraseIdx_range {cols : List Nat} {L : Nat} (hp : cols.Pairwise (· < ·)) (hL : ∀ c ∈ cols, c < L) :
    cols.foldr (fun i r => r.eraseIdx i) (range L) = (range L).filter (· ∉ cols) := by
  induction cols with
  | nil => exact (filter_eq_self.2 fun _ _ => by simp).symm
  | cons c cs ih =>
    rw [pairwise_cons] at hp
    rw [forall_mem_cons] at hL
    -- the members of `cs` are all `> c`, so none of `0 … c` is among them
    rw [foldr_cons, ih hp.2 hL.2, eraseIdx_filter_range hL.1 fun i hi => by
      simpa using fun h => absurd (hp.1 i h) (by omega)]
    exact filter_congr fun i _ => by by_cases h : i = c <;> simp [h]

theorem foldr_eraseIdx_eq (r : List Nat) {cols : List Nat} (hp : cols.Pairwise (· < ·))
    (hL : ∀ c ∈ cols, c < r.length) :
    cols.foldr (fun i r => r.eraseIdx i) r = ((range r.length).filter (· ∉ cols)).map fun i => r.getD i 0 := by
  rw [← foldr_eraseIdx_range hp hL, ← foldr_eraseIdx_map]
  exact congrArg (foldr _ · cols) ((map_id r).symm.trans (map_eq_map_range r 0 id))

theorem kept_eq_map {cols m : List Nat} {L : Nat} (hm : m.Pairwise (· < ·))
    (hr : ∀ s ∈ m, 1 ≤ s ∧ s ≤ L) (hc : ∀ i, i < L → (i ∈ cols ↔ i + 1 ∉ m)) :
    (range L).filter (· ∉ cols) = m.map (· - 1) := by
  refine eq_of_pairwise_lt (pairwise_lt_range.filter _)
    (pairwise_map.2 (hm.imp_of_mem fun {a b} ha _ hab => by have := hr a ha; omega)) fun i => ?_
  simp only [mem_filter, mem_range, decide_eq_true_eq, mem_map]
  constructor
  · rintro ⟨hi, hn⟩
    exact ⟨i + 1, Classical.not_not.1 fun h => hn ((hc i hi).2 h), rfl⟩
  · rintro ⟨s, hs, rfl⟩
    have := hr s hs
    exact ⟨by omega, fun h => (hc _ (by omega)).1 h (by rwa [Nat.sub_add_cancel this.1])⟩

end

theorem zeroCol_iff {cover : List (List Nat)} {z n : Nat} (h : Contiguous cover z n)
    {jds0 : List (List Nat)} (hs : Shape jds0 n (largest cover))
    (hf : ∀ r c, entry jds0 r c = cliqueCount cover (c + 1) (r + z)) (i : Nat) :
    (jds0.all fun r => r.getD i 0 = 0) = true ↔ i + 1 ∉ motifSizes cover := by
  rw [List.all_eq_true, mem_motifSizes]
  constructor
  · -- a clique of size `i + 1` has a vertex; its row has a positive entry in column `i`
    rintro hall ⟨q, hq, hlen⟩
    obtain ⟨h1, _, h3⟩ := h.clique_ok q hq
    obtain ⟨v, hv⟩ := List.exists_mem_of_length_pos h1
    obtain ⟨hv1, hv2⟩ := h3 v hv
    have hlt : v - z < jds0.length := by rw [hs.1]; omega
    have h0 : entry jds0 (v - z) i = 0 := by
      simpa [entry, List.getD_eq_getElem?_getD, List.getElem?_eq_getElem hlt]
        using hall jds0[v - z] (List.getElem_mem hlt)
    rw [hf, Nat.sub_add_cancel hv1] at h0
    exact absurd h0 (Nat.ne_of_gt (cliqueCount_pos_iff.2 ⟨q, hq, hlen, hv⟩))
  · intro hno r hr
    obtain ⟨k, hk⟩ := List.mem_iff_getElem?.1 hr
    have he := hf k i
    simp only [entry, List.getD_eq_getElem?_getD, hk, Option.getD_some] at he
    simp only [List.getD_eq_getElem?_getD, decide_eq_true_eq]
    rw [he]
    exact Nat.eq_zero_of_not_pos fun hp =>
      let ⟨q, hq, e, _⟩ := cliqueCount_pos_iff.1 hp
      hno ⟨q, hq, e⟩

theorem sum_count_eq_length {z n : Nat} (q : List Nat) (hq : ∀ v ∈ q, z ≤ v ∧ v < z + n) :
    ((List.range n).map fun k => q.count (k + z)).sum = q.length := by
  have : ((List.range n).map fun k => q.count (k + z)) = (List.range' z n).map fun v => q.count v := by
    rw [List.range'_eq_map_range, List.map_map]
    exact List.map_congr_left fun k _ => by simp [Nat.add_comm]
  have h := List.sum_map_eq_sum_count (List.nodup_range' 1) (fun a ha => List.mem_range'_1.2 (hq a ha)) fun _ => 1
  rw [List.map_const', List.sum_replicate_nat, Nat.mul_one] at h
  simp only [this, h, Nat.mul_one]

theorem sum_cliqueCount {z n : Nat} (cover : List (List Nat)) (s : Nat)
    (hc : ∀ q ∈ cover, ∀ v ∈ q, z ≤ v ∧ v < z + n) :
    ((List.range n).map fun k => cliqueCount cover s (k + z)).sum =
      s * (cover.filter fun c => c.length = s).length := by
  induction cover with
  | nil => simp [cliqueCount, List.map_const', List.sum_replicate_nat]
  | cons q qs ih =>
    have ih' := ih (fun w hw => hc w (List.mem_cons_of_mem _ hw))
    simp only [cliqueCount_cons]
    rw [List.sum_map_add_nat, ih', List.filter_cons]
    by_cases h : q.length = s
    · simp only [h, if_true, decide_true, List.length_cons]
      rw [sum_count_eq_length q (hc q List.mem_cons_self), h, Nat.mul_succ]; omega
    · simp [h, List.map_const', List.sum_replicate_nat]

end Gcmpy.Cover
