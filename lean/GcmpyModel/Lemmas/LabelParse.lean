import GcmpyModel.Model.LabelParse
/-!
The cover-label parser (`Model/LabelParse.lean`) reads back what the label format writes, in three stages: the
tokenizer turns a printed list into the token list `sepToks …` of its items (`tokenize_commaSep`, for any item printer
whose items are read as their tokens before a comma or the closing bracket, `ItemOK`); the item readers turn
`sepToks …` back into the list (`natItems_sepToks`, `edgeItems_sepToks`); and `split('-')` cuts the label at the three
written dashes because no part contains one (`splitOn_fmtLabel`).  Property theorems: `Properties/C17Label.lean`.
-/
namespace Gcmpy.LabelParse
namespace Lemmas

theorem isDigit_of_mem_natRepr {n : Nat} {c : Char} (h : c ∈ natRepr n) : c.isDigit = true :=
  Nat.isDigit_of_mem_toDigits (by decide) (by decide) h

theorem tokenize_cons_digit (c : Char) (cs : List Char) (acc : Option Nat) (h : c.isDigit = true) :
    tokenize (c :: cs) acc = tokenize cs (some (10 * acc.getD 0 + digitVal c)) := by
  cases acc <;> rw [tokenize] <;> simp [h]

theorem tokenize_digits (ds rest : List Char) (acc : Option Nat) (hne : ds ≠ [])
    (h : ∀ c ∈ ds, c.isDigit = true) :
    tokenize (ds ++ rest) acc = tokenize rest (some (Nat.ofDigitChars 10 ds (acc.getD 0))) := by
  induction ds generalizing acc with
  | nil => exact absurd rfl hne
  | cons c ds ih =>
    rw [List.cons_append, tokenize_cons_digit _ _ _ (h c List.mem_cons_self), Nat.ofDigitChars_cons]
    cases ds with
    | nil => rfl
    | cons d ds => exact ih _ (List.cons_ne_nil d ds) fun x hx => h x (List.mem_cons_of_mem _ hx)

/-- a written number is read back as that number, whatever follows -/
theorem tokenize_natRepr (n : Nat) (rest : List Char) :
    tokenize (natRepr n ++ rest) none = tokenize rest (some n) := by
  rw [tokenize_digits (natRepr n) rest none Nat.toDigits_ne_nil fun c hc => isDigit_of_mem_natRepr hc]
  exact congrArg (fun m => tokenize rest (some m)) Nat.ofDigitChars_ten_toDigits

/-- the tokens a pending number contributes when a non-digit follows (the `flush` of `tokenize`) -/
def flush : Option Nat → List Tok
  | none => []
  | some n => [.num n]

theorem tokenize_punct {c : Char} {t : Tok} (ht : tokOf c = some t) (cs : List Char) (acc : Option Nat) :
    tokenize (c :: cs) acc = (tokenize cs none).map (fun ts => flush acc ++ t :: ts) := by
  -- `tokOf` knows five characters, none of them a digit or the blank
  have hmem : c ∈ ['[', ']', '(', ')', ','] := by
    refine Decidable.byContradiction fun h => ?_
    simp only [List.mem_cons, List.not_mem_nil, or_false, not_or] at h
    simp [tokOf, h] at ht
  have hc := (by decide : ∀ c ∈ ['[', ']', '(', ')', ','], c.isDigit = false ∧ c ≠ ' ') c hmem
  cases acc <;> rw [tokenize] <;> simp [hc.1, hc.2, ht, flush]

theorem tokenize_space_none (cs : List Char) :
    tokenize (' ' :: cs) none = tokenize cs none := by
  rw [tokenize]; simp

theorem tokenize_nil_none : tokenize [] none = some [] := by rw [tokenize]

/-- induction over a list in the shape of `commaSep`: empty, one item, an item before a non-empty rest -/
theorem sepInduction {α : Type} {P : List α → Prop} (nil : P []) (single : ∀ a, P [a])
    (cons : ∀ a b r, P (b :: r) → P (a :: b :: r)) : ∀ l, P l
  | [] => nil
  | [a] => single a
  | a :: b :: r => cons a b r (sepInduction nil single cons (b :: r))

def sepToks : List (List Tok) → List Tok
  | [] => []
  | [x] => x
  | x :: y :: r => x ++ .comma :: sepToks (y :: r)

/-- the item `x` is read as the tokens `t` when a comma or the closing bracket follows -/
def ItemOK (x : List Char) (t : List Tok) : Prop :=
  (∀ rest, tokenize (x ++ ',' :: rest) none = (tokenize rest none).map (fun ts => t ++ .comma :: ts)) ∧
  (∀ rest, tokenize (x ++ ']' :: rest) none = (tokenize rest none).map (fun ts => t ++ .rb :: ts))

theorem tokenize_commaSep {α : Type} (f : α → List Char) (g : α → List Tok) (l : List α)
    (h : ∀ a ∈ l, ItemOK (f a) (g a)) (rest : List Char) :
    tokenize (commaSep (l.map f) ++ ']' :: rest) none
      = (tokenize rest none).map (fun ts => sepToks (l.map g) ++ .rb :: ts) := by
  induction l using sepInduction with
  | nil => simp [commaSep, sepToks, tokenize_punct (c := ']') rfl, flush]
  | single a => simpa [commaSep, sepToks] using (h a (by simp)).2 rest
  | cons a b r ih =>
    have ih' := ih (fun x hx => h x (by simp [hx]))
    simp only [List.map_cons, commaSep, sepToks, List.append_assoc, List.cons_append,
      List.nil_append] at ih' ⊢
    rw [(h a (by simp)).1, tokenize_space_none, ih', Option.map_map]
    congr 1

theorem itemOK_nat (n : Nat) : ItemOK (natRepr n) [.num n] :=
  ⟨fun rest => by rw [tokenize_natRepr, tokenize_punct rfl]; rfl,
   fun rest => by rw [tokenize_natRepr, tokenize_punct rfl]; rfl⟩

def edgeToks (e : Edge) : List Tok := [.lp, .num e.1, .comma, .num e.2, .rp]

theorem tokenize_fmtEdge (e : Edge) (rest : List Char) :
    tokenize (fmtEdge e ++ rest) none = (tokenize rest none).map (fun ts => edgeToks e ++ ts) := by
  simp only [fmtEdge, List.append_assoc, List.cons_append, List.nil_append]
  rw [tokenize_punct rfl, tokenize_natRepr, tokenize_punct rfl, tokenize_space_none, tokenize_natRepr,
    tokenize_punct rfl]
  simp [Option.map_map, edgeToks, Function.comp_def, flush]

theorem itemOK_edge (e : Edge) : ItemOK (fmtEdge e) (edgeToks e) :=
  ⟨fun rest => by rw [tokenize_fmtEdge, tokenize_punct rfl, Option.map_map]; rfl,
   fun rest => by rw [tokenize_fmtEdge, tokenize_punct rfl, Option.map_map]; rfl⟩

theorem tokenize_fmtNatList (ns : List Nat) :
    tokenize (fmtNatList ns) none = some (.lb :: (sepToks (ns.map fun n => [.num n]) ++ [.rb])) := by
  simp only [fmtNatList, List.cons_append, List.nil_append]
  rw [tokenize_punct rfl, tokenize_commaSep natRepr (fun n => [.num n]) ns (fun n _ => itemOK_nat n),
    tokenize_nil_none]
  rfl

theorem tokenize_fmtEdgeList (es : List Edge) :
    tokenize (fmtEdgeList es) none = some (.lb :: (sepToks (es.map edgeToks) ++ [.rb])) := by
  simp only [fmtEdgeList, List.cons_append, List.nil_append]
  rw [tokenize_punct rfl, tokenize_commaSep fmtEdge edgeToks es (fun e _ => itemOK_edge e),
    tokenize_nil_none]
  rfl

theorem natItems_sepToks (ns : List Nat) (rest : List Tok) :
    natItems .rb (sepToks (ns.map fun n => [.num n]) ++ .rb :: rest) = some (ns, rest) := by
  induction ns using sepInduction with
  | nil => simp [sepToks, natItems]
  | single n => simp [sepToks, natItems]
  | cons n m r ih =>
    simp only [List.map_cons, sepToks, List.cons_append, List.nil_append] at ih ⊢
    rw [natItems]
    simp [ih]

theorem natSeq_edgeToks (e : Edge) (rest : List Tok) :
    natSeq (edgeToks e ++ rest) = some ([e.1, e.2], rest) := by
  simp [edgeToks, natSeq, natItems]

theorem edgeItems_step (e : Edge) (fuel : Nat) (X : List Tok) :
    edgeItems .rb (fuel + 1) (edgeToks e ++ .comma :: X)
      = (edgeItems .rb fuel X).map fun (es, r') => (e :: es, r') := by
  have := natSeq_edgeToks e (.comma :: X)
  simp only [edgeToks, List.cons_append, List.nil_append] at this ⊢
  rw [edgeItems]
  simp [this]

theorem edgeItems_last (e : Edge) (fuel : Nat) (rest : List Tok) :
    edgeItems .rb (fuel + 1) (edgeToks e ++ .rb :: rest) = some ([e], rest) := by
  have := natSeq_edgeToks e (.rb :: rest)
  simp only [edgeToks, List.cons_append, List.nil_append] at this ⊢
  rw [edgeItems]
  simp [this]

/-- the fuel is counted in tokens, as `edgeSeq` supplies it -/
theorem edgeItems_sepToks (es : List Edge) (rest : List Tok) (fuel : Nat)
    (hf : (sepToks (es.map edgeToks)).length < fuel) :
    edgeItems .rb fuel (sepToks (es.map edgeToks) ++ .rb :: rest) = some (es, rest) := by
  obtain ⟨fuel, rfl⟩ : ∃ k, fuel = k + 1 := ⟨fuel - 1, by omega⟩
  induction es using sepInduction generalizing fuel with
  | nil => simp [sepToks, edgeItems]
  | single e => exact edgeItems_last e fuel rest
  | cons e e' r ih =>
    simp only [List.map_cons, sepToks, List.length_append, List.length_cons, List.append_assoc,
      List.cons_append] at hf ih ⊢
    obtain ⟨fuel, rfl⟩ : ∃ k, fuel = k + 1 := ⟨fuel - 1, by omega⟩
    rw [edgeItems_step, ih fuel (by omega)]
    rfl

theorem parseInt_natRepr (n : Nat) : parseInt (natRepr n) = some n := by
  have := tokenize_natRepr n []
  rw [List.append_nil] at this
  simp [parseInt, this, tokenize]

theorem parseNatList_fmt (ns : List Nat) : parseNatList (fmtNatList ns) = some ns := by
  simp [parseNatList, tokenize_fmtNatList, natSeq, natItems_sepToks]

theorem parseEdgeList_fmt (es : List Edge) : parseEdgeList (fmtEdgeList es) = some es := by
  simp only [parseEdgeList, tokenize_fmtEdgeList, edgeSeq]
  rw [edgeItems_sepToks es [] _ (by simp; omega)]

theorem splitOn_of_not_mem (sep : Char) (a : List Char) (h : sep ∉ a) : splitOn sep a = [a] := by
  induction a with
  | nil => simp [splitOn]
  | cons c cs ih =>
    have hc : c ≠ sep := fun e => h (by simp [e])
    have := ih (fun hm => h (by simp [hm]))
    simp [splitOn, hc, this]

theorem splitOn_append (sep : Char) (a b : List Char) (h : sep ∉ a) :
    splitOn sep (a ++ sep :: b) = a :: splitOn sep b := by
  induction a with
  | nil => simp [splitOn]
  | cons c cs ih =>
    have hc : c ≠ sep := fun e => h (by simp [e])
    have := ih (fun hm => h (by simp [hm]))
    simp [splitOn, hc, this]

theorem dash_not_mem_natRepr (n : Nat) : '-' ∉ natRepr n := fun h => by
  have := isDigit_of_mem_natRepr h
  exact absurd this (by decide)

theorem dash_not_mem_fmtEdge (e : Edge) : '-' ∉ fmtEdge e := by
  simp only [fmtEdge, List.mem_append, not_or]
  exact ⟨⟨⟨⟨by decide, dash_not_mem_natRepr _⟩, by decide⟩, dash_not_mem_natRepr _⟩, by decide⟩

/-- `fmtNatList ns` and `fmtEdgeList es` are of this form by definition -/
theorem dash_not_mem_list {α : Type} (f : α → List Char) (h : ∀ a, '-' ∉ f a) (l : List α) :
    '-' ∉ ['['] ++ commaSep (l.map f) ++ [']'] := by
  have hc : '-' ∉ commaSep (l.map f) := by
    induction l using sepInduction with
    | nil => simp [commaSep]
    | single x => simpa [commaSep] using h x
    | cons x y r ih =>
      simp only [List.map_cons, commaSep, List.mem_append, not_or] at ih ⊢
      exact ⟨⟨h x, by decide⟩, ih⟩
  simp only [List.mem_append, not_or]
  exact ⟨⟨by decide, hc⟩, by decide⟩

theorem splitOn_fmtLabel (key : Nat) (verts : List Nat) (edges : List Edge) (id : Nat) :
    splitOn '-' (fmtLabel key verts edges id)
      = [natRepr key, fmtNatList verts, fmtEdgeList edges, natRepr id] := by
  simp only [fmtLabel, List.append_assoc, List.cons_append, List.nil_append]
  rw [splitOn_append _ _ _ (dash_not_mem_natRepr key),
    splitOn_append _ (fmtNatList verts) _ (dash_not_mem_list natRepr dash_not_mem_natRepr verts),
    splitOn_append _ (fmtEdgeList edges) _ (dash_not_mem_list fmtEdge dash_not_mem_fmtEdge edges),
    splitOn_of_not_mem _ _ (dash_not_mem_natRepr id)]

theorem topology_of_format (key : Nat) (verts : List Nat) (edges : List Edge) (id : Nat) :
    motifTopology (fmtLabel key verts edges id) = some key := by
  simp [motifTopology, splitOn_fmtLabel, parseInt_natRepr]

theorem id_of_format (key : Nat) (verts : List Nat) (edges : List Edge) (id : Nat) :
    motifID (fmtLabel key verts edges id) = some id := by
  simp [motifID, splitOn_fmtLabel, parseInt_natRepr]

theorem vertices_of_format (key : Nat) (verts : List Nat) (edges : List Edge) (id : Nat) :
    verticesInMotif (fmtLabel key verts edges id) = some verts := by
  simp [verticesInMotif, splitOn_fmtLabel, parseNatList_fmt]

theorem edges_of_format (key : Nat) (verts : List Nat) (edges : List Edge) (id : Nat) :
    edgesInMotif (fmtLabel key verts edges id) = some edges := by
  simp [edgesInMotif, splitOn_fmtLabel, parseEdgeList_fmt]

end Lemmas
end Gcmpy.LabelParse
