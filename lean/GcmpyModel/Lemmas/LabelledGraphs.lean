import Mathlib.Data.Nat.Choose.Basic
import Mathlib.Data.Finset.Sort
import Mathlib.Data.Finset.Max
import Mathlib.Algebra.Group.Action.Defs
import GcmpyModel.Lemmas.Percolation
/-
Graphs on a finite, linearly ordered vertex set `S`, as finsets of ordered pairs `a < b`: the vocabulary shared by
`Lemmas/HararyPalmer.lean`, `Lemmas/Cayley.lean`, `Lemmas/CliqueExact.lean` and `Lemmas/CycleExact.lean`.

Connectedness.  The working notion is `HP.Conn S A` (any two vertices of `S` are joined by a walk `Perc.Reach A`).
Every other way of saying "connected" is taken to it by one lemma:
* the component of `r` is all of `S` (`Perc.comp Vs F r = S`, `F` inside `S`)   — `comp_eq_iff_conn`;
* every vertex is reached from one root `r`                                      — `conn_iff_root`;
* every vertex reaches the root set `{r}` (`Cayley.RConn S {r} A`)                — `Cayley.rconn_singleton`;
* `nx.is_connected` on an edge list (`Graph.connected`, Bool)                    — `Graph.connected_iff`
  (Lemmas/Reach.lean) with `Automated.percReach_iff`; for the edge subsets of `K_n` this is
  `ClosedForms.connected_iff_conn` (Properties/C16Counts).
"The fibre of `S`" in lemma names means the configurations whose root component is `S`.

`cc S k` counts the connected graphs on `S` with `k` edges and depends on `|S|` only (`cc_eq_ccN`).  The second half
(namespace `Cayley`) is about deleting a vertex (`del`, `star`, `nbrs`) and the bound `|S| ≤ |A| + |R|` when every
vertex reaches `R` (`card_ge_of_rconn`); it sits here because `Lemmas/HararyPalmer.lean` needs the case `R = {r}`
(`conn_card_ge`) too.
-/

open Finset BigOperators

namespace Gcmpy.HP
open Gcmpy.Perc

/-- the graph `(S, A)` is connected -/
def Conn {V : Type} (S : Finset V) (A : Finset (V × V)) : Prop := ∀ u ∈ S, ∀ v ∈ S, Reach A u v

/-- `Perc.Reach.symm` under the name used in this namespace -/
theorem Reach.symm {V : Type} {A : Finset (V × V)} {a b : V} (h : Reach A a b) : Reach A b a := Perc.Reach.symm h

theorem conn_iff_root {V : Type} {S : Finset V} {A : Finset (V × V)} {r : V} (hr : r ∈ S) :
    Conn S A ↔ ∀ v ∈ S, Reach A r v :=
  ⟨fun h v hv => h r hr v hv, fun h u hu v hv => (h u hu).symm.trans (h v hv)⟩

theorem comp_eq_iff_conn {V : Type} {Vs S : Finset V} (hSV : S ⊆ Vs) {r : V} (hr : r ∈ S) {F : Finset (V × V)}
    (hF : ∀ e ∈ F, e.1 ∈ S ∧ e.2 ∈ S) : comp Vs F r = S ↔ Conn S F :=
  (comp_eq_iff_reach Vs S hSV r hr F hF).trans (conn_iff_root hr).symm

theorem powerset_filter_card_and {α : Type} (s : Finset α) (j : ℕ) (q : Finset α → Prop)
    [DecidablePred q] : s.powerset.filter (fun F => F.card = j ∧ q F) = (s.powersetCard j).filter q := by
  rw [powersetCard_eq_filter, filter_filter]

section complete
variable {V : Type} [LinearOrder V]

/-- the edges of the complete graph on `S`: pairs `(a, b)` with `a < b` -/
def pairs (S : Finset V) : Finset (V × V) := (S ×ˢ S).filter fun e => e.1 < e.2

theorem mem_pairs {S : Finset V} {e : V × V} : e ∈ pairs S ↔ e.1 ∈ S ∧ e.2 ∈ S ∧ e.1 < e.2 := by
  simp only [pairs, mem_filter, mem_product, and_assoc]

theorem pairs_mono {S T : Finset V} (h : S ⊆ T) : pairs S ⊆ pairs T := by
  intro e he
  rw [mem_pairs] at he ⊢
  exact ⟨h he.1, h he.2.1, he.2.2⟩

theorem pairs_insert_max (a : V) (S : Finset V) (h : ∀ x ∈ S, x < a) :
    pairs (insert a S) = pairs S ∪ S.image (fun x => (x, a)) := by
  ext ⟨x, y⟩
  simp only [mem_pairs, mem_insert, mem_union, mem_image, Prod.mk.injEq]
  constructor
  · rintro ⟨hx | hx, hy | hy, hlt⟩
    · subst hx; subst hy; exact absurd hlt (lt_irrefl _)
    · subst hx; exact absurd hlt (lt_asymm (h y hy))
    · subst hy; exact Or.inr ⟨x, hx, rfl, rfl⟩
    · exact Or.inl ⟨hx, hy, hlt⟩
  · rintro (⟨hx, hy, hlt⟩ | ⟨z, hz, rfl, rfl⟩)
    · exact ⟨Or.inr hx, Or.inr hy, hlt⟩
    · exact ⟨Or.inr hz, Or.inl rfl, h z hz⟩

theorem card_pairs (S : Finset V) : (pairs S).card = S.card.choose 2 := by
  induction S using Finset.induction_on_max with
  | empty => rfl
  | insert a S h ih =>
    have ha : a ∉ S := fun ha => lt_irrefl _ (h a ha)
    rw [pairs_insert_max a S h, card_union_of_disjoint, ih, card_insert_of_notMem ha,
      card_image_of_injective _ (fun x y hxy => (Prod.mk.inj hxy).1), Nat.choose_succ_succ, Nat.choose_one_right,
      Nat.add_comm]
    rw [Finset.disjoint_left]
    intro e he he'
    obtain ⟨z, _, rfl⟩ := mem_image.1 he'
    exact ha (mem_pairs.1 he).2.1

open Classical in
/-- number of connected graphs with vertex set `S` and `k` edges -/
noncomputable def cc (S : Finset V) (k : ℕ) : ℕ := (((pairs S).powersetCard k).filter (Conn S)).card

theorem cc_eq_zero {S : Finset V} {k : ℕ} (h : ∀ A ⊆ pairs S, A.card = k → ¬ Conn S A) : cc S k = 0 := by
  classical
  rw [cc, card_eq_zero, filter_eq_empty_iff]
  exact fun A hA => h A (mem_powersetCard.1 hA).1 (mem_powersetCard.1 hA).2

theorem conn_pairs (S : Finset V) : Conn S (pairs S) := by
  intro u hu v hv
  rcases lt_trichotomy u v with h | rfl | h
  · exact Relation.ReflTransGen.single (Or.inl (mem_pairs.2 ⟨hu, hv, h⟩))
  · exact Relation.ReflTransGen.refl
  · exact Relation.ReflTransGen.single (Or.inr (mem_pairs.2 ⟨hv, hu, h⟩))

theorem cc_complete (S : Finset V) : cc S (S.card.choose 2) = 1 := by
  classical
  rw [cc, ← card_pairs, powersetCard_self, filter_singleton, if_pos (conn_pairs S), card_singleton]

end complete

section relabelling
variable {V W : Type}

theorem adj_map_iff (f : V ↪ W) (A : Finset (V × V)) (w w' : W) :
    Adj (A.map (f.prodMap f)) w w' ↔ ∃ a b, Adj A a b ∧ f a = w ∧ f b = w' := by
  unfold Adj
  simp only [mem_map, Function.Embedding.coe_prodMap, Prod.exists, Prod.map_apply, Prod.mk.injEq]
  constructor
  · rintro (⟨x, y, h, rfl, rfl⟩ | ⟨x, y, h, rfl, rfl⟩)
    · exact ⟨x, y, Or.inl h, rfl, rfl⟩
    · exact ⟨y, x, Or.inr h, rfl, rfl⟩
  · rintro ⟨a, b, h | h, rfl, rfl⟩
    · exact Or.inl ⟨a, b, h, rfl, rfl⟩
    · exact Or.inr ⟨b, a, h, rfl, rfl⟩

theorem reach_map (f : V ↪ W) (A : Finset (V × V)) (a b : V) :
    Reach (A.map (f.prodMap f)) (f a) (f b) ↔ Reach A a b := by
  have : Nonempty V := ⟨a⟩
  have hg := Function.leftInverse_invFun f.injective
  constructor
  · intro h
    have := Relation.ReflTransGen.lift (p := Adj A) (Function.invFun f) (fun w w' hww' => by
      obtain ⟨x, y, hxy, rfl, rfl⟩ := (adj_map_iff f A w w').1 hww'
      show Adj A _ _
      rwa [hg x, hg y]) _ _ h
    rwa [Function.onFun, hg a, hg b] at this
  · exact Relation.ReflTransGen.lift f (fun x y hxy => (adj_map_iff f A _ _).2 ⟨x, y, hxy, rfl, rfl⟩) a b

theorem conn_map (f : V ↪ W) (S : Finset V) (A : Finset (V × V)) :
    Conn (S.map f) (A.map (f.prodMap f)) ↔ Conn S A := by
  unfold Conn
  simp only [mem_map, forall_exists_index, and_imp, forall_apply_eq_imp_iff₂, reach_map]

variable [LinearOrder V] [LinearOrder W]

theorem pairs_map (e : V ↪o W) (S : Finset V) :
    pairs (S.map e.toEmbedding) = (pairs S).map (e.toEmbedding.prodMap e.toEmbedding) := by
  ext ⟨x, y⟩
  simp only [mem_pairs, mem_map, RelEmbedding.coe_toEmbedding, Function.Embedding.coe_prodMap, Prod.exists,
    Prod.map_apply, Prod.mk.injEq]
  constructor
  · rintro ⟨⟨a, ha, rfl⟩, ⟨b, hb, rfl⟩, hlt⟩
    exact ⟨a, b, ⟨ha, hb, e.lt_iff_lt.1 hlt⟩, rfl, rfl⟩
  · rintro ⟨a, b, ⟨ha, hb, hlt⟩, rfl, rfl⟩
    exact ⟨⟨a, ha, rfl⟩, ⟨b, hb, rfl⟩, e.lt_iff_lt.2 hlt⟩

theorem cc_map (e : V ↪o W) (S : Finset V) (k : ℕ) : cc (S.map e.toEmbedding) k = cc S k := by
  classical
  unfold cc
  rw [pairs_map, powersetCard_map, filter_map, card_map]
  congr 1
  apply Finset.filter_congr
  intro A _
  exact conn_map e.toEmbedding S A

end relabelling

/-- number of connected labelled graphs on `n` vertices with `k` edges (vertex set `Fin n`) -/
noncomputable def ccN (n k : ℕ) : ℕ := cc (univ : Finset (Fin n)) k

theorem cc_eq_ccN {V : Type} [LinearOrder V] (S : Finset V) (k : ℕ) : cc S k = ccN S.card k := by
  unfold ccN
  rw [← cc_map (S.orderEmbOfFin rfl), map_orderEmbOfFin_univ]

theorem ccN_complete (n : ℕ) : ccN n (n.choose 2) = 1 := by
  have h := cc_complete (univ : Finset (Fin n))
  rwa [card_univ, Fintype.card_fin] at h

theorem ccN_zero_outside {n k : ℕ} (h : n.choose 2 < k) : ccN n k = 0 := by
  refine cc_eq_zero fun A hA hk _ => ?_
  have := card_le_card hA
  rw [card_pairs, card_univ, Fintype.card_fin] at this
  omega

end Gcmpy.HP

namespace Gcmpy.Cayley
open Gcmpy.Perc Gcmpy.HP

section deletion
variable {V : Type} [LinearOrder V]

/-- the edge `{a, b}` in the encoding of `pairs` (smaller endpoint first) -/
def mkE (a b : V) : V × V := if a < b then (a, b) else (b, a)

theorem mkE_of_lt {a b : V} (h : a < b) : mkE a b = (a, b) := if_pos h
theorem mkE_of_gt {a b : V} (h : b < a) : mkE a b = (b, a) := if_neg (lt_asymm h)

/-- the other end (the function in the definition of `nbrs`) recovers `a` from `mkE r a` -/
theorem mkE_inj (r : V) : Function.Injective (mkE r) := by
  refine Function.LeftInverse.injective (g := fun e => if e.1 = r then e.2 else e.1) fun a => ?_
  rcases lt_or_ge r a with h | h
  · rw [mkE_of_lt h]; exact if_pos rfl
  · rw [mkE, if_neg (not_lt.2 h)]; exact ite_eq_right_iff.2 Eq.symm

/-- every vertex of `S` reaches some vertex of `R` -/
def RConn (S R : Finset V) (A : Finset (V × V)) : Prop := ∀ v ∈ S, ∃ r ∈ R, Reach A v r

/-- the edges not incident to `r` -/
def del (A : Finset (V × V)) (r : V) : Finset (V × V) := A.filter (fun e => ¬ (e.1 = r ∨ e.2 = r))
/-- the edges incident to `r` -/
def star (A : Finset (V × V)) (r : V) : Finset (V × V) := A.filter (fun e => e.1 = r ∨ e.2 = r)
/-- the neighbours of `r` -/
def nbrs (A : Finset (V × V)) (r : V) : Finset V := (star A r).image (fun e => if e.1 = r then e.2 else e.1)
/-- the edges from `r` to the vertices of `J` -/
def starOf (r : V) (J : Finset V) : Finset (V × V) := J.image (mkE r)

theorem mem_del {A : Finset (V × V)} {r : V} {e : V × V} : e ∈ del A r ↔ e ∈ A ∧ e.1 ≠ r ∧ e.2 ≠ r := by
  simp only [del, mem_filter, not_or]

theorem mem_starOf {r : V} {J : Finset V} (hrJ : r ∉ J) {e : V × V} :
    e ∈ starOf r J ↔ e.1 < e.2 ∧ ((e.1 = r ∧ e.2 ∈ J) ∨ (e.2 = r ∧ e.1 ∈ J)) := by
  simp only [starOf, mem_image]
  constructor
  · rintro ⟨j, hj, rfl⟩
    rcases lt_trichotomy r j with h | rfl | h
    · rw [mkE_of_lt h]; exact ⟨h, Or.inl ⟨rfl, hj⟩⟩
    · exact absurd hj hrJ
    · rw [mkE_of_gt h]; exact ⟨h, Or.inr ⟨rfl, hj⟩⟩
  · rintro ⟨hlt, ⟨rfl, hj⟩ | ⟨rfl, hj⟩⟩
    · exact ⟨e.2, hj, mkE_of_lt hlt⟩
    · exact ⟨e.1, hj, mkE_of_gt hlt⟩

theorem mem_nbrs {A : Finset (V × V)} {r v : V} : v ∈ nbrs A r ↔ Adj A r v := by
  unfold nbrs star Adj
  simp only [mem_image, mem_filter, Prod.exists]
  constructor
  · rintro ⟨a, b, ⟨hab, h⟩, rfl⟩
    by_cases ha : a = r
    · subst ha; simp only [if_true]; exact Or.inl hab
    · rcases h with h | h
      · exact absurd h ha
      · subst h; simp only [ha, if_false]; exact Or.inr hab
  · rintro (h | h)
    · exact ⟨r, v, ⟨h, Or.inl rfl⟩, by simp⟩
    · by_cases hv : v = r
      · subst hv; exact ⟨v, v, ⟨h, Or.inl rfl⟩, by simp⟩
      · exact ⟨v, r, ⟨h, Or.inr rfl⟩, by simp [hv]⟩

theorem nbrs_subset {S : Finset V} {A : Finset (V × V)} (hA : A ⊆ pairs S) (r : V) : nbrs A r ⊆ S := by
  intro v hv
  rcases mem_nbrs.1 hv with h | h
  · exact (mem_pairs.1 (hA h)).2.1
  · exact (mem_pairs.1 (hA h)).1

theorem self_notMem_nbrs {S : Finset V} {A : Finset (V × V)} (hA : A ⊆ pairs S) (r : V) : r ∉ nbrs A r := by
  intro hv
  rcases mem_nbrs.1 hv with h | h <;> exact lt_irrefl _ (mem_pairs.1 (hA h)).2.2

theorem card_starOf (r : V) (J : Finset V) : (starOf r J).card = J.card :=
  card_image_of_injective _ (mkE_inj r)

theorem star_eq_starOf {S : Finset V} {A : Finset (V × V)} (hA : A ⊆ pairs S) (r : V) :
    star A r = starOf r (nbrs A r) := by
  ext e
  rw [mem_starOf (self_notMem_nbrs hA r), star, mem_filter, mem_nbrs, mem_nbrs]
  constructor
  · rintro ⟨he, h⟩
    exact ⟨(mem_pairs.1 (hA he)).2.2,
      h.imp (fun h => ⟨h, Or.inl (h ▸ he)⟩) fun h => ⟨h, Or.inr (h ▸ he)⟩⟩
  · rintro ⟨hlt, ⟨rfl, h⟩ | ⟨rfl, h⟩⟩
    · exact ⟨h.resolve_right fun h' => lt_asymm hlt (mem_pairs.1 (hA h')).2.2, Or.inl rfl⟩
    · exact ⟨h.resolve_left fun h' => lt_asymm hlt (mem_pairs.1 (hA h')).2.2, Or.inr rfl⟩

theorem card_star {S : Finset V} {A : Finset (V × V)} (hA : A ⊆ pairs S) (r : V) :
    (star A r).card = (nbrs A r).card := by
  rw [star_eq_starOf hA, card_starOf]

theorem del_union_star (A : Finset (V × V)) (r : V) : del A r ∪ star A r = A := by
  unfold del star
  rw [union_comm]; exact filter_union_filter_not_eq _ A

theorem card_del_add (A : Finset (V × V)) (r : V) : (del A r).card + (star A r).card = A.card := by
  have hd : Disjoint (del A r) (star A r) := (disjoint_filter_filter_not A A _).symm
  rw [← card_union_of_disjoint hd, del_union_star]

theorem del_subset_pairs {S : Finset V} {A : Finset (V × V)} (hA : A ⊆ pairs S) (r : V) :
    del A r ⊆ pairs (S.erase r) := by
  intro e he
  rw [mem_del] at he
  have := mem_pairs.1 (hA he.1)
  exact mem_pairs.2 ⟨mem_erase.2 ⟨he.2.1, this.1⟩, mem_erase.2 ⟨he.2.2, this.2.1⟩, this.2.2⟩

theorem rconn_del {S R : Finset V} {A : Finset (V × V)} {r : V} (h : RConn S R A) :
    RConn (S.erase r) (R.erase r ∪ (nbrs A r \ R)) (del A r) := by
  intro v hv
  obtain ⟨x, hxR, hvx⟩ := h v (mem_of_mem_erase hv)
  replace hv := (mem_erase.1 hv).1
  -- along the walk `v … x`, from the end: every vertex other than `r` reaches a new root without passing `r`
  induction hvx using Relation.ReflTransGen.head_induction_on with
  | refl => exact ⟨x, mem_union_left _ (mem_erase.2 ⟨hv, hxR⟩), Relation.ReflTransGen.refl⟩
  | @head w w' hww' _ ih =>
    by_cases hwR : w ∈ R
    · exact ⟨w, mem_union_left _ (mem_erase.2 ⟨hv, hwR⟩), Relation.ReflTransGen.refl⟩
    by_cases hw' : w' = r
    · exact ⟨w, mem_union_right _ (mem_sdiff.2 ⟨mem_nbrs.2 (hw' ▸ hww'.symm), hwR⟩),
        Relation.ReflTransGen.refl⟩
    obtain ⟨t, ht, hwt⟩ := ih hw'
    exact ⟨t, ht, Relation.ReflTransGen.head
      (hww'.imp (fun h' => mem_del.2 ⟨h', hv, hw'⟩) fun h' => mem_del.2 ⟨h', hw', hv⟩) hwt⟩

theorem erase_union_subset_erase {S R J : Finset V} {r : V} (hr : r ∈ R) (hRS : R ⊆ S) (hJ : J ⊆ S \ R) :
    R.erase r ∪ J ⊆ S.erase r :=
  union_subset (erase_subset_erase r hRS)
    (subset_erase.2 ⟨hJ.trans sdiff_subset, fun h => (mem_sdiff.1 (hJ h)).2 hr⟩)

/-- deleting a root `r` leaves a forest on `S \ {r}` whose roots are `R \ {r}` and the neighbours of `r` outside `R`;
given the lower bound for it (`ih`), counting `|A| = |del A r| + |nbrs A r|` gives the bound for `S` with
`|nbrs A r ∩ R|` to spare. `card_ge_of_rconn` drops the spare term; `Cayley.nbrs_subset_sdiff_of_card` reads off
`nbrs A r ∩ R = ∅` when the bound is tight. -/
theorem card_add_nbrs_le {S R : Finset V} {A : Finset (V × V)} {r : V} (hr : r ∈ R) (hRS : R ⊆ S)
    (hA : A ⊆ pairs S)
    (ih : (S.erase r).card ≤ (del A r).card + (R.erase r ∪ (nbrs A r \ R)).card) :
    S.card + (nbrs A r).card ≤ A.card + R.card + (nbrs A r \ R).card := by
  have h2 : (R.erase r ∪ (nbrs A r \ R)).card ≤ (R.card - 1) + (nbrs A r \ R).card := by
    rw [← card_erase_of_mem hr]; exact card_union_le _ _
  have h4 := card_del_add A r
  rw [card_star hA] at h4
  rw [card_erase_of_mem (hRS hr)] at ih
  have : 0 < R.card := card_pos.2 ⟨r, hr⟩
  have : 0 < S.card := card_pos.2 ⟨r, hRS hr⟩
  omega

theorem nbrs_sdiff_subset {S : Finset V} {A : Finset (V × V)} (hA : A ⊆ pairs S) (R : Finset V) (r : V) :
    nbrs A r \ R ⊆ S \ R := fun _ hx =>
  mem_sdiff.2 ⟨nbrs_subset hA r (mem_sdiff.1 hx).1, (mem_sdiff.1 hx).2⟩

theorem card_ge_of_rconn {S R : Finset V} {A : Finset (V × V)} (hRS : R ⊆ S) (hA : A ⊆ pairs S) (h : RConn S R A) :
    S.card ≤ A.card + R.card := by
  induction hS : S.card generalizing S R A with
  | zero => omega
  | succ n ih =>
    rcases R.eq_empty_or_nonempty with hR | ⟨r, hr⟩
    · subst hR
      obtain ⟨v, hv⟩ : S.Nonempty := card_pos.1 (by omega)
      obtain ⟨r, hr, _⟩ := h v hv
      exact absurd hr (notMem_empty _)
    have h0 : (S.erase r).card = n := by rw [card_erase_of_mem (hRS hr)]; omega
    have h1 := card_add_nbrs_le hr hRS hA (h0 ▸ ih (erase_union_subset_erase hr hRS (nbrs_sdiff_subset hA R r))
      (del_subset_pairs hA r) (rconn_del h) h0)
    have h3 : (nbrs A r \ R).card ≤ (nbrs A r).card := card_le_card sdiff_subset
    omega

omit [LinearOrder V] in
theorem rconn_singleton {S : Finset V} {r : V} (hr : r ∈ S) (A : Finset (V × V)) : RConn S {r} A ↔ Conn S A := by
  rw [conn_iff_root hr]
  unfold RConn
  simp only [mem_singleton, exists_eq_left]
  exact ⟨fun h v hv => (h v hv).symm, fun h v hv => (h v hv).symm⟩

theorem conn_card_ge {S : Finset V} {A : Finset (V × V)} (hA : A ⊆ pairs S) (hS : S.Nonempty) (h : Conn S A) :
    S.card ≤ A.card + 1 := by
  obtain ⟨r, hr⟩ := hS
  exact card_ge_of_rconn (singleton_subset_iff.2 hr) hA ((rconn_singleton hr A).2 h)

end deletion

end Gcmpy.Cayley
