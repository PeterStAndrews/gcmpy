import Mathlib.Algebra.Order.Field.Rat
import Mathlib.Algebra.Order.Field.Basic
import GcmpyModel.Model.MessagePassing
import GcmpyModel.Lemmas.Dict
import GcmpyModel.Properties.C15
/-!
Lemmas for C17 (message passing, `GcmpyModel/Model/MessagePassing.lean`).

The table `H_tau` enters every computation only through `readH`, and a sweep is a run of single updates
`H[(focal, id)] := newMessage …` over the list `updates net` (`sweep_eq_foldl`).  So a statement about a sweep is a
statement about one update (`calcH`) carried along that list, and a statement about one update is a statement about
the neighbour product `prodOver` — a finite product of entries (`prodOver_eq_prod`) — and about the automated
equation of the motif (C15).
-/

namespace Gcmpy.MessagePassing
open Gcmpy Gcmpy.Graph Gcmpy.Automated

/-- every label's own edge list is a simple graph, and the end points of a labelled edge are vertices of its motif -/
def LabelsOk (net : Net) : Prop :=
  ∀ e ∈ net.edges, Automated.Simple e.2.2.edges ∧ e.1 ∈ motifNodes e.2.2.edges ∧ e.2.1 ∈ motifNodes e.2.2.edges

/-- all stored messages lie in [0, 1] -/
def InUnit (H : HMap Rat) : Prop := ∀ p ∈ H, 0 ≤ p.2 ∧ p.2 ≤ 1

/-- pointwise order on message tables with the same key list -/
def HLe (H' H : HMap Rat) : Prop := H'.map (·.1) = H.map (·.1) ∧ ∀ k, readH H' k ≤ readH H k

def LeInUnit (H' H : HMap Rat) : Prop := HLe H' H ∧ InUnit H' ∧ InUnit H

/-- the keys read by `outerSum`: `(end point, motif id)` of the network's labelled edges -/
def EdgeKey (net : Net) (k : Nat × Nat) : Prop :=
  ∃ e ∈ net.edges, k = (e.1, e.2.2.id) ∨ k = (e.2.1, e.2.2.id)

/-- the nodes of a `networkx` graph are the keys of a `dict`, in the order of first insertion -/
theorem motifNodes_eq (es : List Edge) : motifNodes es = (es.flatMap fun e => [e.1, e.2]).foldl Dict.addKey [] := rfl

theorem mem_motifNodes {es : List Edge} {v : Nat} :
    v ∈ motifNodes es ↔ ∃ e ∈ es, v = e.1 ∨ v = e.2 := by
  rw [motifNodes_eq, Dict.mem_foldl_addKey]
  simp

/-- the motif's own vertex list: duplicate free, contains every end point -/
theorem motifNodes_wf (es : List Edge) : WFGraph es (motifNodes es) :=
  ⟨motifNodes_eq es ▸ Dict.nodup_foldl_addKey List.nodup_nil, fun e he =>
    ⟨mem_motifNodes.2 ⟨e, he, .inl rfl⟩, mem_motifNodes.2 ⟨e, he, .inr rfl⟩⟩⟩

/-! ### the table is looked at through `readH`, the neighbour product is a finite product of entries -/

section generic
variable {R : Type} [OfNat R 0]

theorem readH_set (H : HMap R) (k k' : Nat × Nat) (v : R) :
    readH (Dict.set H k v) k' = if k = k' then v else readH H k' := by
  unfold readH
  rw [Dict.get_set]
  split <;> rfl

theorem readH_of_not_mem_keys (H : HMap R) {k : Nat × Nat} (hk : k ∉ Dict.keys H) : readH H k = 0 := by
  unfold readH
  rw [(Dict.get_eq_none_iff H k).2 hk]
  rfl

variable [Add R] [Sub R] [Mul R] [OfNat R 1]

/-! #### a sweep is a run of single updates -/

/-- the updates of one sweep, in the order in which they are made: `(focal, label)` for both end points of every edge -/
def updates (net : Net) : List (Nat × Label) := net.edges.flatMap fun e => [(e.1, e.2.2), (e.2.1, e.2.2)]

theorem sweep_eq_foldl (net : Net) (φ : R) (H : HMap R) :
    sweep net φ H = (updates net).foldl (fun H x => calcH net φ H x.1 x.2) H := by
  simp only [sweep, updates, List.foldl_flatMap, List.foldl_cons, List.foldl_nil]

theorem mem_updates {net : Net} {x : Nat × Label} :
    x ∈ updates net ↔ ∃ e ∈ net.edges, x = (e.1, e.2.2) ∨ x = (e.2.1, e.2.2) := by
  simp only [updates, List.mem_flatMap, List.mem_cons, List.not_mem_nil, or_false]

theorem edgeKey_iff {net : Net} {k : Nat × Nat} :
    EdgeKey net k ↔ k ∈ (updates net).map fun x => (x.1, x.2.id) := by
  simp only [EdgeKey, List.mem_map, mem_updates]
  constructor
  · rintro ⟨e, he, rfl | rfl⟩
    · exact ⟨_, ⟨e, he, .inl rfl⟩, rfl⟩
    · exact ⟨_, ⟨e, he, .inr rfl⟩, rfl⟩
  · rintro ⟨_, ⟨e, he, rfl | rfl⟩, rfl⟩
    · exact ⟨e, he, .inl rfl⟩
    · exact ⟨e, he, .inr rfl⟩

theorem LabelsOk.update {net : Net} (h : LabelsOk net) {x : Nat × Label} (hx : x ∈ updates net) :
    Automated.Simple x.2.edges ∧ x.1 ∈ motifNodes x.2.edges := by
  obtain ⟨e, he, rfl | rfl⟩ := mem_updates.1 hx
  · exact ⟨(h e he).1, (h e he).2.1⟩
  · exact ⟨(h e he).1, (h e he).2.2⟩

/-- the recursion of `sweeps` peels the FIRST sweep; this is the form with the LAST one -/
theorem sweeps_succ' (net : Net) (φ : R) (n : Nat) (H : HMap R) :
    sweeps net φ (n + 1) H = sweep net φ (sweeps net φ n H) := by
  induction n generalizing H with
  | zero => rfl
  | succ n ih => exact ih (sweep net φ H)

theorem sweeps_add (net : Net) (φ : R) (m n : Nat) (H : HMap R) :
    sweeps net φ (m + n) H = sweeps net φ n (sweeps net φ m H) := by
  induction m generalizing H with
  | zero => rw [Nat.zero_add]; rfl
  | succ m ih =>
    rw [Nat.add_right_comm]
    exact ih (sweep net φ H)

theorem sweeps_of_fixed (net : Net) (φ : R) {H : HMap R} (hfix : sweep net φ H = H) :
    ∀ n, sweeps net φ n H = H
  | 0 => rfl
  | n + 1 => by rw [sweeps, hfix, sweeps_of_fixed net φ hfix n]

end generic

/-- ids of the motifs met along the neighbour list `ls` of `j` -/
def idsOf (net : Net) (j : Nat) (ls : List Nat) : List Nat :=
  ls.filterMap fun l => (labelOf net j l).map (·.id)

theorem mem_idsOf {net : Net} {j id : Nat} {ls : List Nat} :
    id ∈ idsOf net j ls ↔ ∃ l ∈ ls, ∃ lab, labelOf net j l = some lab ∧ lab.id = id := by
  simp only [idsOf, List.mem_filterMap, Option.map_eq_some_iff]

theorem idsOf_cons_none {net : Net} {j l : Nat} (ls : List Nat) (h : labelOf net j l = none) :
    idsOf net j (l :: ls) = idsOf net j ls := by
  simp [idsOf, h]

theorem idsOf_cons_some {net : Net} {j l : Nat} {lab : Label} (ls : List Nat) (h : labelOf net j l = some lab) :
    idsOf net j (l :: ls) = lab.id :: idsOf net j ls := by
  simp [idsOf, h]

/-- `prodOver` multiplies the accumulator by one entry per distinct, not yet done, motif id met -/
theorem prodOver_eq_prod {R : Type} [CommRing R] (net : Net) (H : HMap R) (j : Nat) (ls done : List Nat) (acc : R) :
    prodOver net H j ls done acc
      = acc * ∏ id ∈ (idsOf net j ls).toFinset \ done.toFinset, readH H (j, id) := by
  fun_induction prodOver net H j ls done acc with
  | case1 => simp [idsOf]
  | case2 l ls done acc hlab ih => rw [ih, idsOf_cons_none ls hlab]
  | case3 l ls done acc lab hlab hd ih =>
    rw [ih, idsOf_cons_some ls hlab, List.toFinset_cons,
      Finset.insert_sdiff_of_mem _ (List.mem_toFinset.2 hd)]
  | case4 l ls done acc lab hlab hd ih =>
    -- the new id leaves the set of ids still to come and contributes its factor now
    rw [ih, idsOf_cons_some ls hlab, mul_assoc, List.toFinset_cons, List.toFinset_cons,
      Finset.insert_sdiff_of_notMem _ (mt List.mem_toFinset.1 hd), Finset.sdiff_insert,
      ← Finset.mul_prod_erase _ _ (Finset.mem_insert_self _ _), Finset.erase_insert_eq_erase]

/-- the product as `calculate_H_tau` and `outerSum` start it -/
theorem prodOver_one {R : Type} [CommRing R] (net : Net) (H : HMap R) (j : Nat) (ls : List Nat) :
    prodOver net H j ls [] 1 = ∏ id ∈ (idsOf net j ls).toFinset, readH H (j, id) := by
  rw [prodOver_eq_prod, one_mul, List.toFinset_nil, Finset.sdiff_empty]

/-- the labelled edge `e` joins `j` and `l`, in either orientation -/
def Joins (e : Nat × Nat × Label) (j l : Nat) : Prop := (e.1 = j ∧ e.2.1 = l) ∨ (e.1 = l ∧ e.2.1 = j)

theorem labelOf_some {net : Net} {j l : Nat} {lab : Label} (h : labelOf net j l = some lab) :
    ∃ e ∈ net.edges, e.2.2 = lab ∧ Joins e j l := by
  unfold labelOf at h
  rw [Option.map_eq_some_iff] at h
  obtain ⟨e, he, rfl⟩ := h
  refine ⟨e, List.mem_of_find?_eq_some he, rfl, ?_⟩
  simpa [Joins] using List.find?_some he

/-- the neighbour products only read entries at edge keys -/
theorem edgeKey_of_mem_idsOf {net : Net} {j id : Nat} {ls : List Nat} (h : id ∈ idsOf net j ls) :
    EdgeKey net (j, id) := by
  obtain ⟨l, -, lab, hlab, rfl⟩ := mem_idsOf.1 h
  obtain ⟨e, he, rfl, h | h⟩ := labelOf_some hlab
  · exact ⟨e, he, Or.inl (by rw [h.1])⟩
  · exact ⟨e, he, Or.inr (by rw [h.2])⟩

/-! ### every update writes an exact expectation -/

/-- the form proofs use (finsets, any commutative ring); `message_is_expectation` below says the same in the
vocabulary of C15 -/
theorem newMessage_eq_finset {R : Type} [CommRing R] (net : Net) (φ : R) (H : HMap R) {focal : Nat} {lab : Label}
    (hl : Automated.Simple lab.edges) (hf : focal ∈ motifNodes lab.edges) :
    newMessage net φ H focal lab =
      Perc.exactE (motifNodes lab.edges).toFinset lab.edges.toFinset φ
        (fun j => prodOver net H j ((neighbours net j).filter fun l => l ∉ lab.verts) [] 1) focal :=
  automated_exact_finset ⟨motifNodes lab.edges, lab.edges⟩ (motifNodes_wf _) hl hf φ _

/-- every update sets the message to the exact bond-percolation expectation of its motif, with
`u j = ∏` of `j`'s messages from the motifs met among its neighbours outside this motif -/
theorem message_is_expectation (net : Net) (φ : Rat) (H : HMap Rat) {focal : Nat} {lab : Label}
    (hl : Automated.Simple lab.edges) (hf : focal ∈ motifNodes lab.edges) :
    newMessage net φ H focal lab =
      Automated.exactE ⟨motifNodes lab.edges, lab.edges⟩ φ
        (fun j => prodOver net H j ((neighbours net j).filter fun l => l ∉ lab.verts) [] 1) focal :=
  automated_exact ⟨motifNodes lab.edges, lab.edges⟩ (motifNodes_wf _) hl hf φ _

theorem readH_unit {H : HMap Rat} (hH : InUnit H) (k : Nat × Nat) : 0 ≤ readH H k ∧ readH H k ≤ 1 := by
  unfold readH
  cases hg : Dict.get H k with
  | none => exact ⟨le_refl (0 : Rat), zero_le_one⟩
  | some v => exact hH (k, v) (Dict.mem_of_get hg)

theorem prodOver_unit (net : Net) {H : HMap Rat} (hH : InUnit H) (j : Nat) (ls : List Nat) :
    0 ≤ prodOver net H j ls [] 1 ∧ prodOver net H j ls [] 1 ≤ 1 :=
  prodOver_one net H j ls ▸
    ⟨Finset.prod_nonneg fun _ _ => (readH_unit hH _).1,
     Finset.prod_le_one (fun _ _ => (readH_unit hH _).1) fun _ _ => (readH_unit hH _).2⟩

theorem newMessage_unit (net : Net) {φ : Rat} {H : HMap Rat} {focal : Nat} {lab : Label}
    (hl : Automated.Simple lab.edges) (hf : focal ∈ motifNodes lab.edges)
    (h0 : 0 ≤ φ) (h1 : φ ≤ 1) (hH : InUnit H) :
    0 ≤ newMessage net φ H focal lab ∧ newMessage net φ H focal lab ≤ 1 :=
  newMessage_eq_finset net φ H hl hf ▸
    Perc.exactE_nonneg_le_one _ _ _ _ _ h0 h1 fun v _ => prodOver_unit net hH v _

theorem inUnit_set {H : HMap Rat} (hH : InUnit H) (k : Nat × Nat) {v : Rat} (hv : 0 ≤ v ∧ v ≤ 1) :
    InUnit (Dict.set H k v) := fun p hp =>
  (Dict.mem_set H k v p hp).elim (hH p) (· ▸ hv)

theorem inUnit_init (net : Net) : InUnit (initH net (1/2 : Rat)) :=
  List.foldlRecOn _ _ (fun _ hp => nomatch hp) fun _ hH _ _ =>
    List.foldlRecOn _ _ hH fun _ hH _ _ => inUnit_set hH _ ⟨one_half_pos.le, half_le_self zero_le_one⟩

theorem outerSum_eq_sum {R : Type} [CommRing R] (net : Net) (H : HMap R) :
    outerSum net H
      = (net.nodes.map fun i => ∏ id ∈ (idsOf net i (neighbours net i)).toFinset, readH H (i, id)).sum := by
  simp only [outerSum, prodOver_one, foldl_add_eq_sum, zero_add]

theorem outerSum_bounds (net : Net) {H : HMap Rat} (hH : InUnit H) :
    0 ≤ outerSum net H ∧ outerSum net H ≤ (net.nodes.length : Rat) := by
  have hu := fun i => prodOver_one net H i (neighbours net i) ▸ prodOver_unit net hH i (neighbours net i)
  rw [outerSum_eq_sum]
  constructor
  · exact List.sum_nonneg (List.forall_mem_map.2 fun i _ => (hu i).1)
  · simpa using List.sum_le_card_nsmul _ 1 (List.forall_mem_map.2 fun i _ => (hu i).2)

theorem nodes_length_pos {net : Net} (hN : net.nodes ≠ []) : (0 : Rat) < (net.nodes.length : Rat) :=
  Nat.cast_pos.2 (List.length_pos_iff.2 hN)

theorem leInUnit_refl {H : HMap Rat} (hH : InUnit H) : LeInUnit H H := ⟨⟨rfl, fun _ => le_rfl⟩, hH, hH⟩

theorem newMessage_antitone (net : Net) {φ φ' : Rat} {H' H : HMap Rat} {focal : Nat} {lab : Label}
    (hl : Automated.Simple lab.edges) (hf : focal ∈ motifNodes lab.edges)
    (h0 : 0 ≤ φ) (hle : φ ≤ φ') (h1 : φ' ≤ 1)
    (hHH : ∀ k, readH H' k ≤ readH H k) (hH' : InUnit H') (hH : InUnit H) :
    newMessage net φ' H' focal lab ≤ newMessage net φ H focal lab := by
  rw [newMessage_eq_finset net φ' H' hl hf, newMessage_eq_finset net φ H hl hf]
  refine Perc.exactE_antitone _ _ φ φ' _ _ _ h0 hle h1 (fun v _ => ?_)
    (fun v _ => (prodOver_unit net hH' v _).1) (fun v _ => (prodOver_unit net hH v _).2)
  rw [prodOver_one, prodOver_one]
  exact Finset.prod_le_prod (fun _ _ => (readH_unit hH' _).1) fun _ _ => hHH _

theorem leInUnit_calcH (net : Net) {φ φ' : Rat} {H' H : HMap Rat} {focal : Nat} {lab : Label}
    (hl : Automated.Simple lab.edges) (hf : focal ∈ motifNodes lab.edges)
    (h0 : 0 ≤ φ) (hle : φ ≤ φ') (h1 : φ' ≤ 1) (hr : LeInUnit H' H) :
    LeInUnit (calcH net φ' H' focal lab) (calcH net φ H focal lab) := by
  obtain ⟨⟨hk, hHH⟩, hH', hH⟩ := hr
  refine ⟨⟨?_, fun k => ?_⟩, inUnit_set hH' _ (newMessage_unit net hl hf (h0.trans hle) h1 hH'),
    inUnit_set hH _ (newMessage_unit net hl hf h0 (hle.trans h1) hH)⟩
  · exact (Dict.keys_set ..).trans ((show Dict.keys H' = Dict.keys H from hk) ▸ (Dict.keys_set ..).symm)
  · rw [calcH, calcH, readH_set, readH_set]
    split
    · exact newMessage_antitone net hl hf h0 hle h1 hHH hH' hH
    · exact hHH k

theorem leInUnit_sweeps {net : Net} (h : LabelsOk net) {φ φ' : Rat} (h0 : 0 ≤ φ) (hle : φ ≤ φ')
    (h1 : φ' ≤ 1) (n : Nat) {H' H : HMap Rat} (hr : LeInUnit H' H) :
    LeInUnit (sweeps net φ' n H') (sweeps net φ n H) := by
  induction n generalizing H' H with
  | zero => exact hr
  | succ n ih =>
    refine ih ?_
    rw [sweep_eq_foldl, sweep_eq_foldl]
    exact List.foldl_rel hr fun _ hx _ _ hr => leInUnit_calcH net (h.update hx).1 (h.update hx).2 h0 hle h1 hr

theorem inUnit_sweeps {net : Net} (h : LabelsOk net) {φ : Rat} (h0 : 0 ≤ φ) (h1 : φ ≤ 1) (n : Nat)
    {H : HMap Rat} (hH : InUnit H) : InUnit (sweeps net φ n H) :=
  (leInUnit_sweeps h h0 le_rfl h1 n (leInUnit_refl hH)).2.2

theorem outerSum_mono (net : Net) {H' H : HMap Rat} (hr : LeInUnit H' H) : outerSum net H' ≤ outerSum net H := by
  rw [outerSum_eq_sum, outerSum_eq_sum]
  exact List.sum_le_sum fun i _ =>
    Finset.prod_le_prod (fun _ _ => (readH_unit hr.2.1 _).1) fun _ _ => hr.1.2 _

section zero
variable {R : Type} [CommRing R]

theorem newMessage_at_zero (net : Net) (H : HMap R) {focal : Nat} {lab : Label}
    (hl : Automated.Simple lab.edges) (hf : focal ∈ motifNodes lab.edges) :
    newMessage net (0 : R) H focal lab = 1 :=
  automated_at_zero ⟨motifNodes lab.edges, lab.edges⟩ (motifNodes_wf _) hl hf _

/-- at `φ = 0` a sweep is `for k in edge keys: H[k] = 1` -/
theorem sweep_zero {net : Net} (h : LabelsOk net) (H : HMap R) :
    sweep net (0 : R) H = ((updates net).map fun x => (x.1, x.2.id)).foldl (fun H k => Dict.set H k 1) H := by
  rw [sweep_eq_foldl, List.foldl_map]
  exact List.foldl_ext _ _ _ fun H x hx => by rw [calcH, newMessage_at_zero net H (h.update hx).1 (h.update hx).2]

theorem sweep_zero_read {net : Net} (h : LabelsOk net) (H : HMap R) (k : Nat × Nat) :
    (EdgeKey net k → readH (sweep net (0 : R) H) k = 1) ∧
    (¬ EdgeKey net k → readH (sweep net (0 : R) H) k = readH H k) := by
  rw [sweep_zero h, readH, Dict.get_foldl_set _ fun _ => 1, edgeKey_iff]
  exact ⟨fun hk => by rw [if_pos hk]; rfl, fun hk => by rw [if_neg hk]; rfl⟩

theorem sweeps_zero_read {net : Net} (h : LabelsOk net) (H : HMap R) (k : Nat × Nat) {n : Nat} (hn : 1 ≤ n) :
    (EdgeKey net k → readH (sweeps net (0 : R) n H) k = 1) ∧
    (¬ EdgeKey net k → readH (sweeps net (0 : R) n H) k = readH H k) := by
  induction n, hn using Nat.le_induction with
  | base => exact sweep_zero_read h H k
  | succ n _ ih =>
    rw [sweeps_succ']
    exact ⟨(sweep_zero_read h _ k).1, fun hk => ((sweep_zero_read h _ k).2 hk).trans (ih.2 hk)⟩

theorem outerSum_of_ones (net : Net) {H : HMap R} (hH : ∀ k, EdgeKey net k → readH H k = 1) :
    outerSum net H = (net.nodes.length : R) := by
  have h1 : ∀ i ∈ net.nodes, ∏ id ∈ (idsOf net i (neighbours net i)).toFinset, readH H (i, id) = 1 := fun i _ =>
    Finset.prod_eq_one fun id hid => hH _ (edgeKey_of_mem_idsOf (List.mem_toFinset.1 hid))
  rw [outerSum_eq_sum, List.map_congr_left h1]
  simp

end zero

/-- with no occupied edge the reported value is `0` after the first sweep, over any field of characteristic
zero and from any start: `outerSum` reads edge keys only, and a sweep at `φ = 0` rewrites each of them to `1` -/
theorem value_at_zero {K : Type} [Field K] [CharZero K] {net : Net} (h : LabelsOk net) (hN : net.nodes ≠ [])
    (H : HMap K) {n : Nat} (hn : 1 ≤ n) :
    1 - outerSum net (sweeps net (0 : K) n H) / (net.nodes.length : K) = 0 := by
  rw [outerSum_of_ones net fun k hk => (sweeps_zero_read h H k hn).1 hk,
    div_self (Nat.cast_ne_zero.2 (List.length_pos_iff.2 hN).ne'), sub_self]

/-! ### what the neighbour product ranges over -/

/-- the cover labels describe the network -/
structure Consistent (net : Net) : Prop where
  /-- every labelled edge of the network is one of its motif's edges, up to orientation -/
  edge_in_motif : ∀ e ∈ net.edges, (e.1, e.2.1) ∈ e.2.2.edges ∨ (e.2.1, e.1) ∈ e.2.2.edges
  /-- `lab.verts` lists exactly the vertices of `lab.edges` -/
  verts_eq : ∀ e ∈ net.edges, ∀ v, v ∈ e.2.2.verts ↔ v ∈ motifNodes e.2.2.edges
  /-- every motif edge is an edge of the network carrying the same label -/
  motif_in_net : ∀ e ∈ net.edges, ∀ m ∈ e.2.2.edges,
    (m.1, m.2, e.2.2) ∈ net.edges ∨ (m.2, m.1, e.2.2) ∈ net.edges
  /-- labels with equal id are equal -/
  id_inj : ∀ e ∈ net.edges, ∀ e' ∈ net.edges, e.2.2.id = e'.2.2.id → e.2.2 = e'.2.2

/-- `Consistent` from conditions that quantify over list members only (decidable on a concrete network) -/
theorem consistent_of_bounded {net : Net}
    (h1 : ∀ e ∈ net.edges, (e.1, e.2.1) ∈ e.2.2.edges ∨ (e.2.1, e.1) ∈ e.2.2.edges)
    (h2 : ∀ e ∈ net.edges, ∀ v ∈ e.2.2.verts, v ∈ motifNodes e.2.2.edges)
    (h2' : ∀ e ∈ net.edges, ∀ v ∈ motifNodes e.2.2.edges, v ∈ e.2.2.verts)
    (h3 : ∀ e ∈ net.edges, ∀ m ∈ e.2.2.edges,
      (m.1, m.2, e.2.2) ∈ net.edges ∨ (m.2, m.1, e.2.2) ∈ net.edges)
    (h4 : ∀ e ∈ net.edges, ∀ e' ∈ net.edges, e.2.2.id = e'.2.2.id → e.2.2 = e'.2.2) : Consistent net :=
  ⟨h1, fun e he v => ⟨h2 e he v, h2' e he v⟩, h3, h4⟩

/-- two distinct motifs share at most one vertex (edge-disjoint cover of a simple graph) -/
def ShareAtMostOne (net : Net) : Prop :=
  ∀ e ∈ net.edges, ∀ e' ∈ net.edges, ∀ a b, a ≠ b → a ∈ e.2.2.verts → b ∈ e.2.2.verts →
    a ∈ e'.2.2.verts → b ∈ e'.2.2.verts → e.2.2 = e'.2.2

/-- the bounded (decidable) form of `ShareAtMostOne` -/
theorem shareAtMostOne_of_bounded {net : Net}
    (h : ∀ e ∈ net.edges, ∀ e' ∈ net.edges, ∀ a ∈ e.2.2.verts, ∀ b ∈ e.2.2.verts, a ≠ b →
      a ∈ e'.2.2.verts → b ∈ e'.2.2.verts → e.2.2 = e'.2.2) : ShareAtMostOne net :=
  fun e he e' he' a b hab ha hb ha' hb' => h e he e' he' a ha b hb hab ha' hb'

/-- ids of the motifs that contain an edge at `j` -/
def motifIdsAt (net : Net) (j : Nat) : List Nat :=
  (net.edges.filter fun e => e.1 = j ∨ e.2.1 = j).map (·.2.2.id)

theorem mem_motifIdsAt_iff {net : Net} {j id : Nat} :
    id ∈ motifIdsAt net j ↔ ∃ e ∈ net.edges, (e.1 = j ∨ e.2.1 = j) ∧ e.2.2.id = id := by
  simp only [motifIdsAt, List.mem_map, List.mem_filter, decide_eq_true_eq, and_assoc]

theorem exists_labelOf_of_joins {net : Net} {e : Nat × Nat × Label} (he : e ∈ net.edges) {j l : Nat}
    (hjl : Joins e j l) : ∃ lab, labelOf net j l = some lab := by
  unfold labelOf
  cases hf : net.edges.find? fun e => (e.1 = j ∧ e.2.1 = l) ∨ (e.1 = l ∧ e.2.1 = j) with
  | some x => exact ⟨_, rfl⟩
  | none =>
    rw [List.find?_eq_none] at hf
    exact absurd (by simpa [Joins] using hjl) (hf e he)

theorem mem_neighbours {net : Net} {j l : Nat} : l ∈ neighbours net j ↔ ∃ e ∈ net.edges, Joins e j l := by
  simp only [neighbours, mem_dedup, mem_nbrs, Graph.Adj, List.mem_map, Prod.mk.injEq, Joins]
  constructor
  · rintro (⟨e, he, h⟩ | ⟨e, he, h⟩)
    · exact ⟨e, he, .inl h⟩
    · exact ⟨e, he, .inr h⟩
  · rintro ⟨e, he, h | h⟩
    · exact .inl ⟨e, he, h⟩
    · exact .inr ⟨e, he, h⟩

theorem ends_in_verts {net : Net} (hc : Consistent net) {e : Nat × Nat × Label} (he : e ∈ net.edges) :
    e.1 ∈ e.2.2.verts ∧ e.2.1 ∈ e.2.2.verts := by
  rw [hc.verts_eq e he, hc.verts_eq e he]
  exact Adj.mem_nodes (motifNodes_wf _) (hc.edge_in_motif e he)

theorem Joins.verts {net : Net} (hc : Consistent net) {e : Nat × Nat × Label} (he : e ∈ net.edges) {j l : Nat}
    (h : Joins e j l) : j ∈ e.2.2.verts ∧ l ∈ e.2.2.verts := by
  have hv := ends_in_verts hc he
  rcases h with ⟨rfl, rfl⟩ | ⟨rfl, rfl⟩
  · exact hv
  · exact hv.symm

theorem Joins.ne {net : Net} (hc : Consistent net) (h : LabelsOk net) {e : Nat × Nat × Label} (he : e ∈ net.edges)
    {j l : Nat} (hj : Joins e j l) : j ≠ l := by
  have hloop := (h e he).1.2.1
  have hne : e.1 ≠ e.2.1 := (hc.edge_in_motif e he).elim (hloop _) fun h' e' => hloop _ h' e'.symm
  rcases hj with ⟨rfl, rfl⟩ | ⟨rfl, rfl⟩
  · exact hne
  · exact hne.symm

/-- where two motifs share at most one vertex, the label `labelOf` finds for a pair of vertices is the label of
every edge that joins them -/
theorem labelOf_of_joins {net : Net} (hc : Consistent net) (h : LabelsOk net) (hd : ShareAtMostOne net)
    {e : Nat × Nat × Label} (he : e ∈ net.edges) {j l : Nat} (hj : Joins e j l) :
    labelOf net j l = some e.2.2 := by
  obtain ⟨lab, hlab⟩ := exists_labelOf_of_joins he hj
  obtain ⟨e', he', rfl, hj'⟩ := labelOf_some hlab
  rw [hlab, hd e he e' he' j l (hj.ne hc h he) (hj.verts hc he).1 (hj.verts hc he).2
    (hj'.verts hc he').1 (hj'.verts hc he').2]

/-- on a consistent network the motifs with an edge at `j` are exactly the motifs that list `j` as a member -/
theorem mem_motifIdsAt {net : Net} (hc : Consistent net) {j id : Nat} :
    id ∈ motifIdsAt net j ↔ ∃ e ∈ net.edges, j ∈ e.2.2.verts ∧ e.2.2.id = id := by
  rw [mem_motifIdsAt_iff]
  constructor
  · rintro ⟨e, he, hj | hj, rfl⟩
    · exact ⟨e, he, hj ▸ (ends_in_verts hc he).1, rfl⟩
    · exact ⟨e, he, hj ▸ (ends_in_verts hc he).2, rfl⟩
  · rintro ⟨e, he, hj, rfl⟩
    rw [hc.verts_eq e he, mem_motifNodes] at hj
    obtain ⟨m, hm, hjm⟩ := hj
    rcases hc.motif_in_net e he m hm with h | h
    · exact ⟨_, h, hjm.elim (fun h => .inl h.symm) fun h => .inr h.symm, rfl⟩
    · exact ⟨_, h, hjm.elim (fun h => .inr h.symm) fun h => .inl h.symm, rfl⟩

end Gcmpy.MessagePassing
