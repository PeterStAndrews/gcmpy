import Mathlib.Data.Nat.Choose.Basic
import Mathlib.Algebra.BigOperators.NatAntidiagonal
import Mathlib.Algebra.BigOperators.Intervals
import GcmpyModel.Lemmas.ClosedForms
import GcmpyModel.Lemmas.LabelledGraphs
/-
Lemmas for property C16, counting part: the memo table `Qgen` (Model/ClosedForms.lean) computes the Harary–Palmer
recursion (`Qgen_rec`), and the number of connected labelled graphs satisfies it (`hp_identity`, `ccN_rec_nat`), hence
`Qgen_eq_ccN`.  The vocabulary (`pairs`, `Conn`, `cc`, `ccN`) is in `Lemmas/LabelledGraphs.lean`; that the edges of the
model's `completeGraph n` are `pairs (range n)` is stated here, where `pairs` is first in scope together with the model.
-/

namespace Gcmpy.ClosedForms
open Gcmpy Gcmpy.Graph Gcmpy.Automated

theorem fact_eq_factorial : ∀ n, fact n = n.factorial
  | 0 => rfl
  | n+1 => by rw [fact, fact_eq_factorial n, Nat.factorial_succ]

theorem binomial_eq_choose (n k : Nat) : binomial n k = n.choose k := by
  unfold binomial
  split_ifs with h
  · rw [Nat.choose_eq_zero_of_lt h]
  · rw [fact_eq_factorial, fact_eq_factorial, fact_eq_factorial, Nat.div_div_eq_div_mul,
      Nat.choose_eq_factorial_div_factorial (by omega)]

theorem Qgen_zero_below {n k : Nat} (h : k + 1 < n) : Qgen n k = 0 := by
  obtain ⟨m, rfl⟩ : ∃ m, n = m + 1 := ⟨n - 1, by omega⟩
  rw [Qgen_succ_eq_qEntryGen]; exact qEntryGen_eq_zero (Or.inl (by omega))

theorem Qgen_zero_outside {n k : Nat} (h1 : 1 ≤ n) (h : k > n * (n - 1) / 2) : Qgen n k = 0 := by
  obtain ⟨m, rfl⟩ : ∃ m, n = m + 1 := ⟨n - 1, by omega⟩
  rw [Qgen_succ_eq_qEntryGen]; exact qEntryGen_eq_zero (Or.inr h)

theorem qTableGen_lookup {n m : Nat} (hm : m < n) (j : Nat) :
    ((qTableGen n).getD m []).getD j 0 = Qgen (m + 1) j := by
  unfold Qgen
  rw [Nat.add_sub_cancel, qTableGen_getD_of_le (n := m + 1) (m := n) (by omega) (by omega)]

theorem Qgen_rec (n k : Nat) (hn : 1 ≤ n) (hk1 : n - 1 ≤ k) (hk2 : k ≤ n * (n - 1) / 2) :
    Qgen n k = ((n.choose 2).choose k : Int)
      - ∑ m ∈ Finset.range (n - 1), ((n - 1).choose m : Int) *
          ∑ p ∈ Finset.range (k + 1), (((n - 1 - m).choose 2).choose p : Int) * Qgen (m + 1) (k - p) := by
  obtain ⟨N, rfl⟩ : ∃ N, n = N + 1 := ⟨n - 1, by omega⟩
  rw [Qgen_succ_eq_qEntryGen]
  unfold qEntryGen
  simp only [Nat.add_sub_cancel] at hk1 hk2 ⊢
  have h1 : ¬ (k < N ∨ k > (N + 1) * N / 2) := by omega
  simp only [h1, if_false]
  rw [foldl_sub_range, binomial_eq_choose, Nat.choose_two_right, Nat.add_sub_cancel]
  congr 1
  apply Finset.sum_congr rfl
  intro m hm
  have hmN : m < N := Finset.mem_range.1 hm
  rw [binomial_eq_choose]
  congr 1
  rw [List.foldl_map, foldl_add_range, zero_add]
  have hnp : (N - m) * (N + 1 - 2 - m) / 2 = (N - m).choose 2 := by
    rw [Nat.choose_two_right]; congr 2; omega
  simp only [hnp, binomial_eq_choose, qTableGen_lookup hmN]
  -- shift the inner index by `lb`, then extend the range by terms that vanish
  set lb := k - (m + 1) * m / 2 with hlb
  have e1 : ∑ i ∈ Finset.range (k - m + 1 - lb),
        (((N - m).choose 2).choose (i + lb) : Int) * Qgen (m + 1) (k - (i + lb))
      = ∑ p ∈ Finset.Ico lb (k - m + 1), (((N - m).choose 2).choose p : Int) * Qgen (m + 1) (k - p) := by
    rw [Finset.sum_Ico_eq_sum_range]
    apply Finset.sum_congr rfl; intro i _; rw [Nat.add_comm]
  rw [e1]
  apply Finset.sum_subset
  · intro p hp; simp only [Finset.mem_Ico, Finset.mem_range] at hp ⊢; omega
  · intro p hp hp'
    simp only [Finset.mem_Ico, Finset.mem_range, not_and, not_lt] at hp hp'
    by_cases hpl : lb ≤ p
    · have := hp' hpl
      rw [Qgen_zero_below (by omega), mul_zero]
    · rw [Qgen_zero_outside (by omega) (by simp only [Nat.add_sub_cancel]; omega), mul_zero]

theorem completeGraph_edges_toFinset (n : Nat) :
    (completeGraph n).edges.toFinset = HP.pairs (Finset.range n) := by
  ext ⟨a, b⟩
  rw [List.mem_toFinset, mem_completeGraph_edges, HP.mem_pairs]
  simp only [Finset.mem_range]
  omega

theorem completeGraph_edges_length (n : Nat) : (completeGraph n).edges.length = n * (n - 1) / 2 := by
  rw [← List.toFinset_card_of_nodup (completeGraph_edges_nodup n), completeGraph_edges_toFinset, HP.card_pairs,
    Finset.card_range, Nat.choose_two_right]

end Gcmpy.ClosedForms

open Finset BigOperators

namespace Gcmpy.HP
open Gcmpy.Perc

theorem choose_two_add (s t : ℕ) : (s + t).choose 2 = s.choose 2 + t.choose 2 + s * t := by
  induction t with
  | zero => simp
  | succ t ih =>
    have h (m : ℕ) : (m + 1).choose 2 = m + m.choose 2 := by rw [Nat.choose_succ_succ m 1, Nat.choose_one_right]
    rw [← Nat.add_assoc, h, h, ih, Nat.mul_succ]
    omega

/-- the edge sets with `k` edges in which the component of `r` is `S` are the disjoint unions of a spanning connected
edge set inside `S` and an arbitrary edge set outside `S` (`Perc.sum_fiber_pairs`), counted by the sizes of the parts -/
theorem fiber_card {V : Type} [DecidableEq V] (Vs : Finset V) (E : Finset (V × V))
    (hE : ∀ e ∈ E, e.1 ∈ Vs ∧ e.2 ∈ Vs) (r : V)
    (S : Finset V) (hr : r ∈ S) (k : ℕ) [DecidablePred fun A : Finset (V × V) => comp Vs A r = S] :
    ((E.powersetCard k).filter (fun A => comp Vs A r = S)).card
      = ∑ ij ∈ antidiagonal k, (outer E S).card.choose ij.1 *
          (((inner E S).powersetCard ij.2).filter (fun F => comp Vs F r = S)).card := by
  set T := ((((inner E S).powerset.filter (fun F => comp Vs F r = S)) ×ˢ (outer E S).powerset).filter
    (fun x => x.2.card + x.1.card = k)) with hT
  have step1 : ((E.powersetCard k).filter (fun A => comp Vs A r = S)).card = T.card := by
    rw [powersetCard_eq_filter, filter_comm, card_filter, sum_fiber_pairs Vs E hE r S hr, hT, card_filter, sum_product]
    refine sum_congr rfl fun F hF => sum_congr rfl fun O hO => ?_
    have hd : Disjoint F O := disjoint_of_subset_left (mem_powerset.1 (mem_filter.1 hF).1)
      (disjoint_of_subset_right ((mem_powerset.1 hO).trans subset_union_right) (disjoint_parts E S).1)
    rw [card_union_of_disjoint hd, Nat.add_comm]
  rw [step1, Finset.card_eq_sum_card_fiberwise (f := fun x => (x.2.card, x.1.card)) (t := antidiagonal k)
    (fun x hx => by
      simp only [hT, mem_coe, mem_filter] at hx
      simpa using hx.2)]
  apply Finset.sum_congr rfl
  rintro ⟨i, j⟩ hij
  rw [mem_antidiagonal] at hij
  rw [← card_powersetCard, Nat.mul_comm, ← card_product]
  congr 1
  ext ⟨F, O⟩
  simp only [hT, mem_filter, mem_product, mem_powerset, mem_powersetCard, Prod.mk.injEq]
  constructor
  · rintro ⟨⟨⟨⟨hF, hc⟩, hO⟩, _⟩, hi, hj⟩; exact ⟨⟨⟨hF, hj⟩, hc⟩, hO, hi⟩
  · rintro ⟨⟨⟨hF, hj⟩, hc⟩, hO, hi⟩; exact ⟨⟨⟨⟨hF, hc⟩, hO⟩, by omega⟩, hi, hj⟩

section completeGraph
variable {V : Type} [LinearOrder V]

theorem inner_pairs {Vs S : Finset V} (h : S ⊆ Vs) : inner (pairs Vs) S = pairs S := by
  ext e
  simp only [mem_inner, mem_pairs]
  constructor
  · rintro ⟨⟨_, _, hlt⟩, h1, h2⟩; exact ⟨h1, h2, hlt⟩
  · rintro ⟨h1, h2, hlt⟩; exact ⟨⟨h h1, h h2, hlt⟩, h1, h2⟩

theorem outer_pairs (Vs S : Finset V) : outer (pairs Vs) S = pairs (Vs \ S) := by
  ext e
  simp only [mem_outer, mem_pairs, mem_sdiff]
  constructor
  · rintro ⟨⟨h1, h2, hlt⟩, h3, h4⟩; exact ⟨⟨h1, h3⟩, ⟨h2, h4⟩, hlt⟩
  · rintro ⟨⟨h1, h3⟩, ⟨h2, h4⟩, hlt⟩; exact ⟨⟨h1, h2, hlt⟩, h3, h4⟩

/-- `K_Vs` consists of `K_S`, `K_{Vs \ S}` and the boundary edges of `S`: count -/
theorem card_bdry_pairs {Vs S : Finset V} (hS : S ⊆ Vs) :
    (bdry (pairs Vs) S).card = S.card * (Vs.card - S.card) := by
  have h := congrArg card (part_E (pairs Vs) S)
  obtain ⟨h1, h2⟩ := disjoint_parts (pairs Vs) S
  rw [card_union_of_disjoint h1, card_union_of_disjoint h2, inner_pairs hS, outer_pairs, card_pairs, card_pairs,
    card_pairs, card_sdiff_of_subset hS] at h
  obtain ⟨t, ht⟩ : ∃ t, Vs.card = S.card + t := ⟨_, (Nat.add_sub_cancel' (card_le_card hS)).symm⟩
  rw [ht, Nat.add_sub_cancel_left, choose_two_add] at h
  rw [ht, Nat.add_sub_cancel_left]
  omega

theorem fiber_conn {Vs S : Finset V} (hSV : S ⊆ Vs) {r : V} (hr : r ∈ S) (j : ℕ)
    [DecidablePred fun F : Finset (V × V) => comp Vs F r = S] :
    (((inner (pairs Vs) S).powersetCard j).filter (fun F => comp Vs F r = S)).card = cc S j := by
  classical
  unfold cc
  rw [inner_pairs hSV]
  congr 1
  refine Finset.filter_congr fun F hF => ?_
  exact comp_eq_iff_conn hSV hr fun e he =>
    ⟨(mem_pairs.1 ((mem_powersetCard.1 hF).1 he)).1, (mem_pairs.1 ((mem_powersetCard.1 hF).1 he)).2.1⟩

/-- **Harary–Palmer, finset form**: classify all graphs with `k` edges on `Vs` by the component `S` of `r` -/
theorem hp_identity (Vs : Finset V) (r : V) (hr : r ∈ Vs) (k : ℕ) :
    (Vs.card.choose 2).choose k
      = ∑ S ∈ Vs.powerset.filter (fun S => r ∈ S), ∑ ij ∈ antidiagonal k,
          ((Vs.card - S.card).choose 2).choose ij.1 * cc S ij.2 := by
  classical
  rw [← card_pairs, ← card_powersetCard,
    Finset.card_eq_sum_card_fiberwise (f := fun A => comp Vs A r) (t := Vs.powerset.filter (fun S => r ∈ S))
      (fun A _ => by simp [root_mem_comp A hr, comp_subset])]
  apply Finset.sum_congr rfl
  intro S hS
  rw [mem_filter, mem_powerset] at hS
  rw [fiber_card Vs (pairs Vs) (fun e he => ⟨(mem_pairs.1 he).1, (mem_pairs.1 he).2.1⟩) r S hS.2 k]
  apply Finset.sum_congr rfl
  intro ij _
  rw [fiber_conn hS.1 hS.2, outer_pairs, card_pairs, card_sdiff_of_subset hS.1]

end completeGraph

theorem sum_powerset_mem {V M : Type} [DecidableEq V] [AddCommMonoid M] {Vs : Finset V} {r : V} (hr : r ∈ Vs)
    (f : Finset V → M) :
    ∑ S ∈ Vs.powerset.filter (fun S => r ∈ S), f S = ∑ T ∈ (Vs.erase r).powerset, f (insert r T) := by
  have hn : r ∉ Vs.erase r := notMem_erase r Vs
  conv_lhs => rw [← insert_erase hr]
  rw [sum_filter, sum_powerset_insert hn, sum_eq_zero fun T hT => if_neg fun h => hn (mem_powerset.1 hT h), zero_add]
  exact sum_congr rfl fun T _ => if_pos (mem_insert_self r T)

theorem sum_powerset_mem_card {V : Type} [DecidableEq V] (Vs : Finset V) (r : V) (hr : r ∈ Vs) (g : ℕ → ℕ) :
    ∑ S ∈ Vs.powerset.filter (fun S => r ∈ S), g S.card
      = ∑ m ∈ range Vs.card, (Vs.card - 1).choose m * g (m + 1) := by
  have hpos : 0 < Vs.card := card_pos.2 ⟨r, hr⟩
  rw [sum_powerset_mem hr, Finset.sum_powerset, card_erase_of_mem hr, Nat.sub_add_cancel hpos]
  refine Finset.sum_congr rfl fun m _ => ?_
  rw [← card_erase_of_mem hr, ← card_powersetCard, ← smul_eq_mul, ← sum_const]
  refine Finset.sum_congr rfl fun T hT => ?_
  obtain ⟨hT, hc⟩ := mem_powersetCard.1 hT
  rw [card_insert_of_notMem fun h => (mem_erase.1 (hT h)).1 rfl, hc]

/-- **Harary–Palmer for the number of connected labelled graphs**: all graphs on `n` vertices with `k` edges,
classified by the size `m + 1` of the component of a fixed vertex; the class `m = n - 1` are the connected graphs -/
theorem ccN_rec_nat (n k : ℕ) (hn : 1 ≤ n) :
    (n.choose 2).choose k = (∑ m ∈ range (n - 1), (n - 1).choose m *
      ∑ p ∈ range (k + 1), ((n - 1 - m).choose 2).choose p * ccN (m + 1) (k - p)) + ccN n k := by
  obtain ⟨N, rfl⟩ : ∃ N, n = N + 1 := ⟨n - 1, by omega⟩
  have h := hp_identity (univ : Finset (Fin (N + 1))) 0 (mem_univ _) k
  simp only [card_univ, Fintype.card_fin, cc_eq_ccN] at h
  rw [h, sum_powerset_mem_card (univ : Finset (Fin (N + 1))) 0 (mem_univ _)
    (fun c => ∑ ij ∈ antidiagonal k, ((N + 1 - c).choose 2).choose ij.1 * ccN c ij.2)]
  simp only [card_univ, Fintype.card_fin, Nat.add_sub_cancel, Nat.add_sub_add_right,
    Finset.Nat.sum_antidiagonal_eq_sum_range_succ_mk]
  rw [Finset.sum_range_succ]
  congr 1
  -- the class `m = n - 1` leaves no vertex outside: of its inner sum only `p = 0` survives
  have h0 : ∀ p, ((0 : ℕ).choose 2).choose (p + 1) = 0 := fun p => Nat.choose_zero_succ p
  rw [Nat.choose_self, Nat.sub_self, one_mul, Finset.sum_range_succ',
    Finset.sum_eq_zero fun p _ => by rw [h0, zero_mul], zero_add, Nat.choose_zero_right, one_mul, Nat.sub_zero]

/-- `ccN_rec_nat` in the shape of `Qgen_rec` -/
theorem ccN_rec_int (n k : ℕ) (hn : 1 ≤ n) :
    (ccN n k : Int) = ((n.choose 2).choose k : Int)
      - ∑ m ∈ range (n - 1), ((n - 1).choose m : Int) *
          ∑ p ∈ range (k + 1), (((n - 1 - m).choose 2).choose p : Int) * (ccN (m + 1) (k - p) : Int) := by
  rw [ccN_rec_nat n k hn]; push_cast; ring

theorem ccN_zero_below {n k : ℕ} (h : k + 1 < n) : ccN n k = 0 := by
  refine cc_eq_zero fun A hA hk hc => ?_
  have := Cayley.conn_card_ge hA ⟨⟨0, by omega⟩, mem_univ _⟩ hc
  rw [card_univ, Fintype.card_fin, hk] at this
  omega

open Gcmpy.ClosedForms in
theorem Qgen_eq_ccN : ∀ n, 1 ≤ n → ∀ k, Qgen n k = (ccN n k : Int) := by
  intro n
  induction n using Nat.strong_induction_on with
  | _ n ih =>
    intro hn k
    by_cases h1 : k + 1 < n
    · rw [Qgen_zero_below h1, ccN_zero_below h1]; rfl
    by_cases h2 : n * (n - 1) / 2 < k
    · rw [Qgen_zero_outside hn h2, ccN_zero_outside (by rw [Nat.choose_two_right]; exact h2)]; rfl
    rw [Qgen_rec n k hn (by omega) (by omega), ccN_rec_int n k hn]
    congr 1
    refine Finset.sum_congr rfl fun m hm => ?_
    rw [mem_range] at hm
    congr 1
    refine Finset.sum_congr rfl fun p _ => ?_
    rw [ih (m + 1) (by omega) (by omega)]

end Gcmpy.HP
