import Mathlib.Algebra.BigOperators.Ring.Finset
import Mathlib.Data.Finset.Powerset
import Mathlib.Logic.Relation
import Mathlib.Data.Fintype.Basic
import Mathlib.Tactic.Ring
import Mathlib.Algebra.BigOperators.Group.Finset.Sigma
import Mathlib.Algebra.BigOperators.Group.Finset.Powerset
import Mathlib.Algebra.Order.BigOperators.Ring.Finset
/-
Bond percolation on a finite graph, without probability theory.

* Over any commutative ring: the exact expectation `exactE` of `∏ u` over the open
  component of a root equals the "sum over root components" decomposition `autoE`
  (`exactE_eq_autoE`), over an explicit finite vertex set `Vs`; it equals `1` at `p = 0`.
* Over a linearly ordered field: `exactE` lies in `[0,1]`, is monotone in `u` and antitone in `p`.
-/

open Finset BigOperators

namespace Gcmpy.Perc
variable {V : Type}
variable {R : Type} [CommRing R]
variable {ι : Type} [DecidableEq ι]

/-- adjacency induced by a set of (ordered-pair-encoded, undirected) edges -/
def Adj (A : Finset (V × V)) (x y : V) : Prop := (x, y) ∈ A ∨ (y, x) ∈ A

def Reach (A : Finset (V × V)) (r v : V) : Prop := Relation.ReflTransGen (Adj A) r v

open Classical in
/-- the open component of `r` (inside the vertex set `Vs`) under the open edges `A` -/
noncomputable def comp (Vs : Finset V) (A : Finset (V × V)) (r : V) : Finset V :=
  Vs.filter (Reach A r)

theorem Reach.mono {A B : Finset (V × V)} (h : A ⊆ B) {r v : V} (hr : Reach A r v) :
    Reach B r v :=
  Relation.ReflTransGen.mono (fun _ _ hab => hab.imp (@h _) (@h _)) _ _ hr

theorem Reach.symm {A : Finset (V × V)} {a b : V} (h : Reach A a b) : Reach A b a := by
  induction h with
  | refl => exact Relation.ReflTransGen.refl
  | tail _ hbc ih => exact Relation.ReflTransGen.head hbc.symm ih

/-- a property that no edge of `A` separates is carried along every walk in `A` -/
theorem Reach.closed {A : Finset (V × V)} {P : V → Prop} (hP : ∀ e ∈ A, (P e.1 ↔ P e.2)) {r v : V}
    (hr : P r) (h : Reach A r v) : P v := by
  induction h with
  | refl => exact hr
  | tail _ hab ih => exact hab.elim (fun h1 => (hP _ h1).1 ih) (fun h1 => (hP _ h1).2 ih)

theorem mem_comp {Vs : Finset V} {A : Finset (V × V)} {r v : V} :
    v ∈ comp Vs A r ↔ v ∈ Vs ∧ Reach A r v := by
  classical simp [comp]

theorem comp_subset (Vs : Finset V) (A : Finset (V × V)) (r : V) : comp Vs A r ⊆ Vs := by
  classical exact filter_subset _ _

theorem root_mem_comp {Vs : Finset V} (A : Finset (V × V)) {r : V} (hr : r ∈ Vs) :
    r ∈ comp Vs A r :=
  mem_comp.2 ⟨hr, Relation.ReflTransGen.refl⟩

theorem comp_mono (Vs : Finset V) {A B : Finset (V × V)} (h : A ⊆ B) (r : V) :
    comp Vs A r ⊆ comp Vs B r :=
  fun _ hv => mem_comp.2 ⟨(mem_comp.1 hv).1, (mem_comp.1 hv).2.mono h⟩

/-- "the component of `r` is `S`" for a set `S ∋ r`: `S` lies in `Vs`, all of it is reachable, and no open
edge leaves it.  Every other description of a root component below is read off from this one. -/
theorem comp_eq_iff_closed (Vs : Finset V) (F : Finset (V × V))
    (hF : ∀ e ∈ F, e.1 ∈ Vs ∧ e.2 ∈ Vs) (r : V) (S : Finset V) (hr : r ∈ S) :
    comp Vs F r = S ↔ S ⊆ Vs ∧ (∀ v ∈ S, Reach F r v) ∧ ∀ e ∈ F, (e.1 ∈ S ↔ e.2 ∈ S) := by
  constructor
  · rintro rfl
    refine ⟨comp_subset _ _ _, fun v hv => (mem_comp.1 hv).2, fun e he => ?_⟩
    simp only [mem_comp]
    exact ⟨fun h => ⟨(hF e he).2, h.2.tail (Or.inl he)⟩, fun h => ⟨(hF e he).1, h.2.tail (Or.inr he)⟩⟩
  · rintro ⟨hSV, hreach, hcl⟩
    ext v
    rw [mem_comp]
    exact ⟨fun h => h.2.closed hcl hr, fun hv => ⟨hSV hv, hreach v hv⟩⟩

/-- for open edges with both ends in `S`, "the component of `r` is `S`" says that the graph `(S, F)` is connected -/
theorem comp_eq_iff_reach (Vs S : Finset V) (hSV : S ⊆ Vs) (r : V) (hr : r ∈ S) (F : Finset (V × V))
    (hF : ∀ e ∈ F, e.1 ∈ S ∧ e.2 ∈ S) : comp Vs F r = S ↔ ∀ v ∈ S, Reach F r v := by
  rw [comp_eq_iff_closed Vs F (fun e he => ⟨hSV (hF e he).1, hSV (hF e he).2⟩) r S hr]
  exact ⟨fun h => h.2.1, fun h => ⟨hSV, h, fun e he => iff_of_true (hF e he).1 (hF e he).2⟩⟩

variable [DecidableEq V]

def inner (E : Finset (V × V)) (S : Finset V) : Finset (V × V) :=
  E.filter fun e => e.1 ∈ S ∧ e.2 ∈ S
def outer (E : Finset (V × V)) (S : Finset V) : Finset (V × V) :=
  E.filter fun e => e.1 ∉ S ∧ e.2 ∉ S
def bdry (E : Finset (V × V)) (S : Finset V) : Finset (V × V) :=
  E.filter fun e => ¬ (e.1 ∈ S ∧ e.2 ∈ S) ∧ ¬ (e.1 ∉ S ∧ e.2 ∉ S)

theorem mem_inner {E : Finset (V × V)} {S : Finset V} {e : V × V} :
    e ∈ inner E S ↔ e ∈ E ∧ e.1 ∈ S ∧ e.2 ∈ S := mem_filter

theorem adj_inner {E : Finset (V × V)} {S : Finset V} {a b : V} :
    Adj (inner E S) a b ↔ Adj E a b ∧ a ∈ S ∧ b ∈ S := by
  simp only [Adj, mem_inner]
  rw [and_comm (a := b ∈ S), ← or_and_right]

theorem mem_outer {E : Finset (V × V)} {S : Finset V} {e : V × V} :
    e ∈ outer E S ↔ e ∈ E ∧ e.1 ∉ S ∧ e.2 ∉ S := mem_filter

theorem mem_bdry {E : Finset (V × V)} {S : Finset V} {e : V × V} :
    e ∈ bdry E S ↔ e ∈ E ∧ ¬ (e.1 ∈ S ∧ e.2 ∈ S) ∧ ¬ (e.1 ∉ S ∧ e.2 ∉ S) := mem_filter

theorem bdry_eq_empty_iff {A : Finset (V × V)} {S : Finset V} :
    bdry A S = ∅ ↔ ∀ e ∈ A, (e.1 ∈ S ↔ e.2 ∈ S) := by
  rw [bdry, filter_eq_empty_iff]
  exact forall₂_congr fun e _ => by
    rw [not_and_or, not_not, not_not]; exact iff_iff_and_or_not_and_not.symm

theorem Reach.inner {A : Finset (V × V)} {S : Finset V} (hS : ∀ e ∈ A, (e.1 ∈ S ↔ e.2 ∈ S)) {r v : V}
    (hr : r ∈ S) (h : Reach A r v) : Reach (inner A S) r v := by
  induction h with
  | refl => exact Relation.ReflTransGen.refl
  | tail hb hbc ih => exact ih.tail (adj_inner.2 ⟨hbc, Reach.closed hS hr hb, Reach.closed hS hr (hb.tail hbc)⟩)

theorem comp_eq_iff (Vs : Finset V) (A : Finset (V × V))
    (hA : ∀ e ∈ A, e.1 ∈ Vs ∧ e.2 ∈ Vs) (r : V) (S : Finset V) (hr : r ∈ S) :
    comp Vs A r = S ↔ (bdry A S = ∅) ∧ comp Vs (inner A S) r = S := by
  rw [comp_eq_iff_closed Vs A hA r S hr,
    comp_eq_iff_closed Vs (inner A S) (fun e he => hA e (mem_inner.1 he).1) r S hr, bdry_eq_empty_iff]
  constructor
  · rintro ⟨hSV, hreach, hcl⟩
    exact ⟨hcl, hSV, fun v hv => (hreach v hv).inner hcl hr,
      fun e he => iff_of_true (mem_inner.1 he).2.1 (mem_inner.1 he).2.2⟩
  · rintro ⟨hcl, hSV, hreach, -⟩
    exact ⟨hSV, fun v hv => (hreach v hv).mono (filter_subset _ _), hcl⟩

omit [DecidableEq V] in
theorem comp_eq_iff' (Vs : Finset V) (F : Finset (V × V))
    (hF : ∀ e ∈ F, e.1 ∈ Vs ∧ e.2 ∈ Vs) (r : V) (hr : r ∈ Vs) (S : Finset V) :
    comp Vs F r = S ↔
      S ⊆ Vs ∧ r ∈ S ∧ (∀ v ∈ S, Reach F r v) ∧ (∀ e ∈ F, (e.1 ∈ S ↔ e.2 ∈ S)) := by
  constructor
  · intro h
    have hrS : r ∈ S := h ▸ root_mem_comp F hr
    obtain ⟨h1, h2⟩ := (comp_eq_iff_closed Vs F hF r S hrS).1 h
    exact ⟨h1, hrS, h2⟩
  · rintro ⟨h1, hrS, h2⟩
    exact (comp_eq_iff_closed Vs F hF r S hrS).2 ⟨h1, h2⟩

theorem inner_fiber_eq_connected (Vs : Finset V) (E : Finset (V × V)) (S : Finset V)
    (hSV : S ⊆ Vs) (r : V) (hr : r ∈ S) (F : Finset (V × V)) (hF : F ⊆ inner E S) :
    comp Vs F r = S ↔ ∀ v ∈ S, Relation.ReflTransGen (fun a b => Adj F a b) r v :=
  comp_eq_iff_reach Vs S hSV r hr F fun _ he => (mem_inner.1 (hF he)).2

/-- bond-percolation weight of the open set `A` inside `E` -/
def wt (p : R) (E A : Finset ι) : R := (∏ _e ∈ A, p) * ∏ _e ∈ E \ A, (1 - p)

theorem wt_eq_pow (p : R) {E A : Finset ι} (h : A ⊆ E) :
    wt p E A = p ^ A.card * (1 - p) ^ (E.card - A.card) := by
  simp only [wt, Finset.prod_const, Finset.card_sdiff_of_subset h]

/-- exact expectation of the product of `u` over the other vertices of `r`'s open component -/
noncomputable def exactE (Vs : Finset V) (E : Finset (V × V)) (p : R) (u : V → R) (r : V) : R :=
  ∑ A ∈ E.powerset, wt p E A * ∏ v ∈ (comp Vs A r).erase r, u v

theorem wt_total (p : R) (X : Finset ι) : ∑ O ∈ X.powerset, wt p X O = 1 := by
  have := Finset.prod_add (fun _ : ι => p) (fun _ => 1 - p) X
  simp only [wt]
  rw [← this]
  simp

omit [DecidableEq ι] in
theorem filter_powerset_eq {I : Finset ι} {q : Finset ι → Prop} [DecidablePred q] {T : Finset (Finset ι)}
    (hT : ∀ F ∈ T, F ⊆ I ∧ q F) (h : ∀ F ⊆ I, q F → F ∈ T) : I.powerset.filter q = T := by
  ext F
  rw [mem_filter, mem_powerset]
  exact ⟨fun hF => h F hF.1 hF.2, hT F⟩

theorem sum_powerset_sdiff {M : Type} [AddCommMonoid M] (E : Finset ι) (f : Finset ι → M) :
    ∑ D ∈ E.powerset, f (E \ D) = ∑ A ∈ E.powerset, f A :=
  Finset.sum_nbij' (fun D => E \ D) (fun A => E \ A)
    (fun _ _ => mem_powerset.2 sdiff_subset) (fun _ _ => mem_powerset.2 sdiff_subset)
    (fun _ hD => Finset.sdiff_sdiff_eq_self (mem_powerset.1 hD))
    (fun _ hA => Finset.sdiff_sdiff_eq_self (mem_powerset.1 hA))
    (fun _ _ => rfl)

theorem wt_empty (p : R) (X : Finset ι) : wt p X ∅ = ∏ _e ∈ X, (1 - p) := by
  rw [wt, prod_empty, one_mul, sdiff_empty]

theorem wt_self (p : R) (X : Finset ι) : wt p X X = ∏ _e ∈ X, p := by
  rw [wt, Finset.sdiff_self, prod_empty, mul_one]

/-- independent edges: the weight over a disjoint union of ground sets is the product of the weights -/
theorem wt_union (p : R) {X Y A B : Finset ι} (hXY : Disjoint X Y) (hA : A ⊆ X) (hB : B ⊆ Y) :
    wt p (X ∪ Y) (A ∪ B) = wt p X A * wt p Y B := by
  have hsd : (X ∪ Y) \ (A ∪ B) = X \ A ∪ Y \ B := by
    rw [union_sdiff_distrib, sdiff_union_distrib, sdiff_union_distrib,
      sdiff_eq_self_of_disjoint (disjoint_of_subset_right hB hXY),
      sdiff_eq_self_of_disjoint (disjoint_of_subset_right hA hXY.symm),
      inter_eq_left.2 sdiff_subset, inter_eq_right.2 sdiff_subset]
  rw [wt, hsd, prod_union (disjoint_of_subset_left hA (disjoint_of_subset_right hB hXY)),
    prod_union (disjoint_of_subset_left sdiff_subset (disjoint_of_subset_right sdiff_subset hXY)), wt, wt]
  ring

theorem part_E (E : Finset (V × V)) (S : Finset V) :
    E = inner E S ∪ (bdry E S ∪ outer E S) := by
  rw [inner, bdry, outer, ← filter_or, ← filter_or]
  exact (filter_true_of_mem fun e _ =>
    or_iff_not_imp_left.2 fun h => or_iff_not_imp_right.2 fun h' => ⟨h, h'⟩).symm

theorem disjoint_parts (E : Finset (V × V)) (S : Finset V) :
    Disjoint (inner E S) (bdry E S ∪ outer E S) ∧ Disjoint (bdry E S) (outer E S) :=
  ⟨disjoint_union_right.2 ⟨disjoint_filter.2 fun _ _ h h' => h'.1 h,
    disjoint_filter.2 fun _ _ h h' => h'.1 h.1⟩, disjoint_filter.2 fun _ _ h h' => h.2 h'⟩

/-- two exclusive classes `P`, `Q`: filtering `F ∪ O` for `P` gives back `F` -/
theorem filter_union_of_subset {P Q : ι → Prop} [DecidablePred P] [DecidablePred Q] {E F O : Finset ι}
    (hPQ : ∀ x, P x → ¬ Q x) (hF : F ⊆ E.filter P) (hO : O ⊆ E.filter Q) : (F ∪ O).filter P = F := by
  rw [filter_union, filter_true_of_mem fun x hx => (mem_filter.1 (hF hx)).2,
    filter_false_of_mem fun x hx hP => hPQ x hP (mem_filter.1 (hO hx)).2, union_empty]

theorem inner_union (E : Finset (V × V)) (S : Finset V) {F O : Finset (V × V)}
    (hF : F ⊆ inner E S) (hO : O ⊆ outer E S) : inner (F ∪ O) S = F :=
  filter_union_of_subset (fun _ h h' => h'.1 h.1) hF hO

theorem outer_union (E : Finset (V × V)) (S : Finset V) {F O : Finset (V × V)}
    (hF : F ⊆ inner E S) (hO : O ⊆ outer E S) : outer (F ∪ O) S = O := by
  rw [union_comm]
  exact filter_union_of_subset (fun _ h h' => h.1 h'.1) hO hF

theorem bdry_union (E : Finset (V × V)) (S : Finset V) {F O : Finset (V × V)}
    (hF : F ⊆ inner E S) (hO : O ⊆ outer E S) : bdry (F ∪ O) S = ∅ := by
  refine filter_false_of_mem fun e he h => ?_
  rcases mem_union.1 he with he | he
  · exact h.1 (mem_inner.1 (hF he)).2
  · exact h.2 (mem_outer.1 (hO he)).2

theorem wt_split (p : R) (E : Finset (V × V)) (S : Finset V) {F O : Finset (V × V)}
    (hF : F ⊆ inner E S) (hO : O ⊆ outer E S) :
    wt p E (F ∪ O) = wt p (inner E S) F * (∏ _e ∈ bdry E S, (1 - p)) * wt p (outer E S) O := by
  obtain ⟨h1, h2⟩ := disjoint_parts E S
  have hO' : ∅ ∪ O ⊆ bdry E S ∪ outer E S := union_subset_union (empty_subset _) hO
  conv_lhs => rw [part_E E S, ← empty_union O]
  rw [wt_union p h1 hF hO', wt_union p h2 (empty_subset _) hO, wt_empty, mul_assoc]

/-- A configuration whose root component is `S` is a pair: a configuration inside `S` with that root component,
and any configuration outside `S` (the boundary of `S` stays closed).  The general form of `fiber_sum`: any summand. -/
theorem sum_fiber_pairs {M : Type} [AddCommMonoid M] (Vs : Finset V) (E : Finset (V × V))
    (hE : ∀ e ∈ E, e.1 ∈ Vs ∧ e.2 ∈ Vs) (r : V) (S : Finset V) (hr : r ∈ S) (f : Finset (V × V) → M)
    [DecidablePred fun A : Finset (V × V) => comp Vs A r = S] :
    ∑ A ∈ E.powerset.filter (fun A => comp Vs A r = S), f A
      = ∑ F ∈ (inner E S).powerset.filter (fun F => comp Vs F r = S), ∑ O ∈ (outer E S).powerset,
          f (F ∪ O) := by
  have hc : ∀ {A : Finset (V × V)}, A ⊆ E →
      (comp Vs A r = S ↔ bdry A S = ∅ ∧ comp Vs (inner A S) r = S) :=
    fun hA => comp_eq_iff Vs _ (fun e he => hE e (hA he)) r S hr
  have hmem : ∀ {x : Finset (V × V) × Finset (V × V)},
      x ∈ (inner E S).powerset.filter (fun F => comp Vs F r = S) ×ˢ (outer E S).powerset ↔
        (x.1 ⊆ inner E S ∧ comp Vs x.1 r = S) ∧ x.2 ⊆ outer E S := by
    simp only [mem_product, mem_filter, mem_powerset, implies_true]
  rw [← Finset.sum_product']
  symm
  refine Finset.sum_nbij' (fun x => x.1 ∪ x.2) (fun A => (inner A S, outer A S)) ?_ ?_ ?_ ?_
    (fun _ _ => rfl)
  · intro x hx
    obtain ⟨⟨hF, hcF⟩, hO⟩ := hmem.1 hx
    have hFOE : x.1 ∪ x.2 ⊆ E := union_subset (hF.trans (filter_subset _ _)) (hO.trans (filter_subset _ _))
    rw [mem_filter, mem_powerset, hc hFOE, bdry_union E S hF hO, inner_union E S hF hO]
    exact ⟨hFOE, rfl, hcF⟩
  · intro A hA
    obtain ⟨hAE, hcA⟩ := mem_filter.1 hA
    rw [mem_powerset] at hAE
    exact hmem.2 ⟨⟨filter_subset_filter _ hAE, ((hc hAE).1 hcA).2⟩, filter_subset_filter _ hAE⟩
  · intro x hx
    obtain ⟨⟨hF, -⟩, hO⟩ := hmem.1 hx
    rw [inner_union E S hF hO, outer_union E S hF hO]
  · intro A hA
    obtain ⟨hAE, hcA⟩ := mem_filter.1 hA
    have := part_E A S
    rwa [((hc (mem_powerset.1 hAE)).1 hcA).1, empty_union, eq_comm] at this

/-- total weight of the configurations whose root component is exactly `S`. -/
theorem fiber_sum (p : R) (Vs : Finset V) (E : Finset (V × V))
    (hE : ∀ e ∈ E, e.1 ∈ Vs ∧ e.2 ∈ Vs) (r : V) (S : Finset V) (hr : r ∈ S) :
    ∑ A ∈ E.powerset.filter (fun A => comp Vs A r = S), wt p E A
      = (∏ _e ∈ bdry E S, (1 - p)) *
        ∑ F ∈ (inner E S).powerset.filter (fun F => comp Vs F r = S), wt p (inner E S) F := by
  classical
  rw [sum_fiber_pairs Vs E hE r S hr, Finset.mul_sum]
  refine Finset.sum_congr rfl fun F hF => ?_
  have hF' : F ⊆ inner E S := mem_powerset.1 (mem_filter.1 hF).1
  rw [Finset.sum_congr rfl fun O hO => wt_split p E S hF' (mem_powerset.1 hO), ← Finset.mul_sum, wt_total,
    mul_one, mul_comm]

/-- the decomposition the automated equation computes, stated over finsets -/
noncomputable def autoE (Vs : Finset V) (E : Finset (V × V)) (p : R) (u : V → R) (r : V) : R :=
  ∑ S ∈ Vs.powerset.filter (fun S => r ∈ S),
    (∏ _e ∈ bdry E S, (1 - p)) * (∏ v ∈ S.erase r, u v) *
      ∑ F ∈ (inner E S).powerset.filter (fun F => comp Vs F r = S), wt p (inner E S) F

/-- the summand of `autoE` for the vertex set `S` -/
noncomputable def term (Vs : Finset V) (E : Finset (V × V)) (p : R) (u : V → R) (r : V) (S : Finset V) : R :=
  (∏ _e ∈ bdry E S, (1 - p)) * (∏ v ∈ S.erase r, u v) *
    ∑ F ∈ (inner E S).powerset.filter (fun F => comp Vs F r = S), wt p (inner E S) F

theorem autoE_eq_sum_term (Vs : Finset V) (E : Finset (V × V)) (p : R) (u : V → R) (r : V) :
    autoE Vs E p u r = ∑ S ∈ Vs.powerset.filter (fun S => r ∈ S), term Vs E p u r S := rfl

theorem term_eq_zero (Vs : Finset V) (E : Finset (V × V)) (p : R) (u : V → R) (r : V) {S : Finset V}
    (h : ∀ F ⊆ inner E S, comp Vs F r ≠ S) : term Vs E p u r S = 0 := by
  rw [term, filter_false_of_mem fun F hF => h F (mem_powerset.1 hF), sum_empty, mul_zero]

/-- only vertex sets that are the root component of some configuration inside them contribute to `autoE`: it is the sum
of the terms over any family `T` that contains them -/
theorem autoE_eq_sum_of_fibers (Vs : Finset V) (E : Finset (V × V)) (p : R) (u : V → R) (r : V)
    {T : Finset (Finset V)} (hT : ∀ S ∈ T, S ⊆ Vs ∧ r ∈ S)
    (hfib : ∀ S ⊆ Vs, r ∈ S → ∀ F ⊆ inner E S, comp Vs F r = S → S ∈ T) :
    autoE Vs E p u r = ∑ S ∈ T, term Vs E p u r S := by
  rw [autoE_eq_sum_term]
  refine (sum_subset (fun S hS => mem_filter.2 ⟨mem_powerset.2 (hT S hS).1, (hT S hS).2⟩)
    fun S hS hST => ?_).symm
  rw [mem_filter, mem_powerset] at hS
  exact term_eq_zero Vs E p u r fun F hF hc => hST (hfib S hS.1 hS.2 F hF hc)

/-- **C15 core**: exact bond-percolation expectation = sum over root components. -/
theorem exactE_eq_autoE (Vs : Finset V) (E : Finset (V × V))
    (hE : ∀ e ∈ E, e.1 ∈ Vs ∧ e.2 ∈ Vs) (p : R) (u : V → R) (r : V) (hr : r ∈ Vs) :
    exactE Vs E p u r = autoE Vs E p u r := by
  classical
  unfold exactE autoE
  rw [← Finset.sum_fiberwise_of_maps_to (s := E.powerset)
    (t := Vs.powerset.filter (fun S => r ∈ S)) (g := fun A => comp Vs A r)
    (fun A _ => by simp [root_mem_comp A hr, comp_subset])]
  refine Finset.sum_congr rfl fun S hS => ?_
  rw [Finset.sum_congr rfl fun A hA => by rw [(mem_filter.1 hA).2], ← Finset.sum_mul,
    fiber_sum p Vs E hE r S (mem_filter.1 hS).2]
  ring

theorem exactE_eq_autoE_univ [Fintype V] (E : Finset (V × V)) (p : R) (u : V → R) (r : V) :
    exactE univ E p u r = autoE univ E p u r :=
  exactE_eq_autoE univ E (fun _ _ => ⟨mem_univ _, mem_univ _⟩) p u r (mem_univ r)

theorem comp_empty_erase (Vs : Finset V) (r : V) : (comp Vs ∅ r).erase r = ∅ := by
  refine Finset.eq_empty_of_forall_notMem fun v hv => ?_
  rw [mem_erase, mem_comp] at hv
  exact hv.1 ((Relation.reflTransGen_iff_eq fun b h => by simp [Adj] at h).1 hv.2.2)

def avg (p : R) (E : Finset ι) (g : Finset ι → R) : R := ∑ A ∈ E.powerset, wt p E A * g A

theorem avg_insert (p : R) (E : Finset ι) (e : ι) (he : e ∉ E) (g : Finset ι → R) :
    avg p (insert e E) g = avg p E (fun A => (1 - p) * g A + p * g (insert e A)) := by
  unfold avg
  rw [Finset.sum_powerset_insert he, ← Finset.sum_add_distrib]
  refine Finset.sum_congr rfl fun A hA => ?_
  have hAE : A ⊆ E := mem_powerset.1 hA
  have hd : Disjoint {e} E := disjoint_singleton_left.2 he
  have h1 : wt p (insert e E) A = (1 - p) * wt p E A := by
    have := wt_union p hd (empty_subset _) hAE
    rwa [empty_union, wt_empty, prod_singleton, ← insert_eq] at this
  have h2 : wt p (insert e E) (insert e A) = p * wt p E A := by
    rw [insert_eq, insert_eq e A, wt_union p hd Subset.rfl hAE, wt_self, prod_singleton]
  rw [h1, h2]; ring

theorem exactE_eq_avg (Vs : Finset V) (E : Finset (V × V)) (p : R) (u : V → R) (r : V) :
    exactE Vs E p u r = avg p E (fun A => ∏ v ∈ (comp Vs A r).erase r, u v) := rfl

/-- at `p = 0` the average is the value at the empty configuration (edge by edge, `avg_insert`) -/
theorem avg_zero (E : Finset ι) (g : Finset ι → R) : avg 0 E g = g ∅ := by
  induction E using Finset.induction_on generalizing g with
  | empty => rw [avg, powerset_empty, sum_singleton, wt_empty, prod_empty, one_mul]
  | insert e E he ih => rw [avg_insert 0 E e he, ih, sub_zero, one_mul, zero_mul, add_zero]

theorem exactE_at_zero (Vs : Finset V) (E : Finset (V × V)) (u : V → R) (r : V) :
    exactE Vs E 0 u r = 1 := by
  rw [exactE_eq_avg, avg_zero, comp_empty_erase, prod_empty]

theorem avg_const (p : R) (E : Finset ι) (c : R) : avg p E (fun _ => c) = c := by
  rw [avg, ← Finset.sum_mul, wt_total, one_mul]

theorem mem_of_mem_comp_erase {Vs : Finset V} {A : Finset (V × V)} {r v : V}
    (hv : v ∈ (comp Vs A r).erase r) : v ∈ Vs :=
  comp_subset Vs A r (Finset.mem_of_mem_erase hv)

section Order
variable {K : Type} [Field K] [LinearOrder K] [IsStrictOrderedRing K]

theorem wt_nonneg (p : K) (hp : 0 ≤ p) (hp1 : p ≤ 1) (E A : Finset ι) : 0 ≤ wt p E A :=
  mul_nonneg (Finset.prod_nonneg fun _ _ => hp) (Finset.prod_nonneg fun _ _ => sub_nonneg.2 hp1)

theorem avg_mono (p : K) (hp : 0 ≤ p) (hp1 : p ≤ 1) (E : Finset ι) {g g' : Finset ι → K}
    (h : ∀ A ⊆ E, g A ≤ g' A) : avg p E g ≤ avg p E g' :=
  Finset.sum_le_sum fun A hA => mul_le_mul_of_nonneg_left (h A (mem_powerset.1 hA)) (wt_nonneg p hp hp1 E A)

/-- **Monotone coupling without probability**: if `g` is decreasing in the open set, its
percolation average is non-increasing in the occupation probability. -/
theorem avg_antitone (E : Finset ι) :
    ∀ (g : Finset ι → K), (∀ A B, A ⊆ B → B ⊆ E → g B ≤ g A) →
      ∀ p q : K, 0 ≤ p → p ≤ q → q ≤ 1 → avg q E g ≤ avg p E g := by
  induction E using Finset.induction_on with
  | empty =>
    intro g _ p q _ _ _
    rw [avg, avg, powerset_empty, sum_singleton, sum_singleton, wt_empty, wt_empty, prod_empty, prod_empty]
  | insert e E he ih =>
    intro g hg p q hp hpq hq
    rw [avg_insert q E e he g, avg_insert p E e he g]
    -- first change the integrand at fixed `q`, then the parameter by the induction hypothesis
    calc avg q E (fun A => (1 - q) * g A + q * g (insert e A))
        ≤ avg q E (fun A => (1 - p) * g A + p * g (insert e A)) :=
          avg_mono q (hp.trans hpq) hq E fun A hA => by
            -- the integrand is `g A - t * (g A - g (insert e A))`, decreasing in `t`
            have h : ∀ t : K, (1 - t) * g A + t * g (insert e A) = g A - t * (g A - g (insert e A)) :=
              fun t => by ring
            rw [h, h]
            exact sub_le_sub_left (mul_le_mul_of_nonneg_right hpq (sub_nonneg.2
              (hg A (insert e A) (subset_insert _ _) (insert_subset_insert _ hA)))) _
      _ ≤ avg p E (fun A => (1 - p) * g A + p * g (insert e A)) :=
          ih _ (fun A B hAB hBE => add_le_add
            (mul_le_mul_of_nonneg_left (hg A B hAB (hBE.trans (subset_insert _ _)))
              (sub_nonneg.2 (hpq.trans hq)))
            (mul_le_mul_of_nonneg_left
              (hg (insert e A) (insert e B) (insert_subset_insert _ hAB) (insert_subset_insert _ hBE)) hp))
            p q hp hpq hq

theorem prod_comp_mem_unit (Vs : Finset V) (u : V → K) (hu : ∀ v ∈ Vs, 0 ≤ u v ∧ u v ≤ 1)
    (A : Finset (V × V)) (r : V) :
    0 ≤ ∏ v ∈ (comp Vs A r).erase r, u v ∧ ∏ v ∈ (comp Vs A r).erase r, u v ≤ 1 :=
  ⟨Finset.prod_nonneg fun v hv => (hu v (mem_of_mem_comp_erase hv)).1,
    Finset.prod_le_one (fun v hv => (hu v (mem_of_mem_comp_erase hv)).1)
      fun v hv => (hu v (mem_of_mem_comp_erase hv)).2⟩

theorem exactE_nonneg_le_one (Vs : Finset V) (E : Finset (V × V)) (p : K) (u : V → K) (r : V)
    (hp : 0 ≤ p) (hp1 : p ≤ 1) (hu : ∀ v ∈ Vs, 0 ≤ u v ∧ u v ≤ 1) :
    0 ≤ exactE Vs E p u r ∧ exactE Vs E p u r ≤ 1 := by
  have h0 := avg_mono p hp hp1 E fun A _ => (prod_comp_mem_unit Vs u hu A r).1
  have h1 := avg_mono p hp hp1 E fun A _ => (prod_comp_mem_unit Vs u hu A r).2
  rw [avg_const] at h0 h1
  rw [exactE_eq_avg]
  exact ⟨h0, h1⟩

theorem exactE_mono_u (Vs : Finset V) (E : Finset (V × V)) (p : K) (u u' : V → K) (r : V)
    (hu : ∀ v ∈ Vs, 0 ≤ u v ∧ u v ≤ u' v) (hp : 0 ≤ p) (hp1 : p ≤ 1) :
    exactE Vs E p u r ≤ exactE Vs E p u' r := by
  rw [exactE_eq_avg, exactE_eq_avg]
  exact avg_mono p hp hp1 E fun _ _ => Finset.prod_le_prod (fun v hv => (hu v (mem_of_mem_comp_erase hv)).1)
    fun v hv => (hu v (mem_of_mem_comp_erase hv)).2

theorem exactE_antitone_p (Vs : Finset V) (E : Finset (V × V)) (p p' : K) (u : V → K) (r : V)
    (hp : 0 ≤ p) (hpp : p ≤ p') (hp1 : p' ≤ 1) (hu : ∀ v ∈ Vs, 0 ≤ u v ∧ u v ≤ 1) :
    exactE Vs E p' u r ≤ exactE Vs E p u r := by
  rw [exactE_eq_avg, exactE_eq_avg]
  -- a larger open set has a larger component, and the additional factors are at most `1`
  exact avg_antitone E _ (fun A B hAB _ => Finset.prod_le_prod_of_subset_of_le_one
    (Finset.erase_subset_erase r (comp_mono Vs hAB r)) (fun v hv => (hu v (mem_of_mem_comp_erase hv)).1)
    fun v hv _ => (hu v (mem_of_mem_comp_erase hv)).2) p p' hp hpp hp1

theorem exactE_antitone (Vs : Finset V) (E : Finset (V × V)) (p p' : K) (u u' : V → K) (r : V)
    (hp : 0 ≤ p) (hpp : p ≤ p') (hp1 : p' ≤ 1)
    (huu : ∀ v ∈ Vs, u' v ≤ u v) (hu' : ∀ v ∈ Vs, 0 ≤ u' v) (hu : ∀ v ∈ Vs, u v ≤ 1) :
    exactE Vs E p' u' r ≤ exactE Vs E p u r :=
  (exactE_mono_u Vs E p' u' u r (fun v hv => ⟨hu' v hv, huu v hv⟩) (hp.trans hpp) hp1).trans
    (exactE_antitone_p Vs E p p' u r hp hpp hp1 fun v hv => ⟨(hu' v hv).trans (huu v hv), hu v hv⟩)

end Order

end Gcmpy.Perc

#print axioms Gcmpy.Perc.exactE_eq_autoE
#print axioms Gcmpy.Perc.fiber_sum
#print axioms Gcmpy.Perc.comp_eq_iff'
#print axioms Gcmpy.Perc.inner_fiber_eq_connected
#print axioms Gcmpy.Perc.wt_eq_pow
#print axioms Gcmpy.Perc.exactE_at_zero
#print axioms Gcmpy.Perc.avg_antitone
#print axioms Gcmpy.Perc.exactE_nonneg_le_one
#print axioms Gcmpy.Perc.exactE_mono_u
#print axioms Gcmpy.Perc.exactE_antitone_p
#print axioms Gcmpy.Perc.exactE_antitone
