import GcmpyModel.Model.Mixing
import GcmpyModel.Lemmas.DictTally
import GcmpyModel.Lemmas.ListFacts
import Mathlib.Algebra.Order.Field.Rat
/-!
Route: the edge ends of a topology are `sym` of its edges (each edge once in either orientation), and `getEjk`,
`overallEjk`, `countEdgeTypes` are counters (`Dict.tally` with a constant weight) over edge ends resp. edges.
-/
namespace Gcmpy.Mixing
open Gcmpy Gcmpy.Loaders

section Sym
variable {α : Type}

/-- every pair followed by its mirror image: the two ends of every edge -/
def sym (l : List (α × α)) : List (α × α) := l.flatMap fun p => [p, p.swap]

theorem sym_cons (p : α × α) (l : List (α × α)) : sym (p :: l) = p :: p.swap :: sym l := rfl

theorem length_sym (l : List (α × α)) : (sym l).length = 2 * l.length :=
  List.length_flatMap_pair id Prod.swap l

theorem count_sym_swap [BEq α] [LawfulBEq α] (l : List (α × α)) (a b : α) :
    (sym l).count (a, b) = (sym l).count (b, a) := by
  induction l with
  | nil => rfl
  | cons p l ih =>
    have h (x y : α) : (p.swap == (x, y)) = (p == (y, x)) := by
      rw [Bool.eq_iff_iff, beq_iff_eq, beq_iff_eq, ← Prod.swap_inj, Prod.swap_swap]; rfl
    rw [sym_cons, List.count_cons, List.count_cons, List.count_cons, List.count_cons, ih, h, h,
      Nat.add_assoc, Nat.add_assoc, Nat.add_comm (if (p == (a, b)) = true then 1 else 0)]

theorem mem_sym_swap [BEq α] [LawfulBEq α] (l : List (α × α)) (a b : α) :
    (a, b) ∈ sym l ↔ (b, a) ∈ sym l := by
  rw [← List.count_pos_iff, count_sym_swap, List.count_pos_iff]

theorem forall_mem_sym {P : α → Prop} {l : List (α × α)} (h : ∀ p ∈ l, P p.1 ∧ P p.2) :
    ∀ q ∈ sym l, P q.1 ∧ P q.2 := by
  intro q hq
  obtain ⟨p, hp, hq⟩ := List.mem_flatMap.1 hq
  rcases List.mem_pair.1 hq with rfl | rfl
  · exact h _ hp
  · exact (h _ hp).symm

theorem map_fst_sym (l : List (α × α)) : (sym l).map (·.1) = l.flatMap fun p => [p.1, p.2] :=
  List.map_flatMap

end Sym

/-- number of edges of topology `name` -/
def numE (net : ANet) (name : String) : Nat := (net.edges.filter (fun e => e.2.2 = name)).length

theorem countEdgeTypes_eq (net : ANet) (start : List (String × Nat)) :
    countEdgeTypes net start = Dict.tally (·.2.2) (fun _ => 1) start net.edges := rfl

def Uniform (net : ANet) (T : Nat) : Prop := ∀ p ∈ net.jd, p.2.length = T

/-- both end points of every edge carry a joint-degree annotation -/
def Annotated (net : ANet) : Prop :=
  ∀ e ∈ net.edges, (Dict.get net.jd e.1).isSome ∧ (Dict.get net.jd e.2.1).isSome

/-- the edge ends of the edges `es` of topology `name`, as (own excess tuple, partner's excess tuple) -/
def endsIn (net : ANet) (i : Nat) (name : String) (es : List (Nat × Nat × String)) : List (JD × JD) :=
  (es.filter (fun e => e.2.2 = name)).flatMap fun e =>
    [(excess (jdOf net e.1) i, excess (jdOf net e.2.1) i),
     (excess (jdOf net e.2.1) i, excess (jdOf net e.1) i)]

/-- the edge ends of topology `name`: every edge `(u, v)` of that topology contributes the end at `u`
    (own excess `excess(u)`, partner excess `excess(v)`) and the end at `v` -/
def ends (net : ANet) (i : Nat) (name : String) : List (JD × JD) := endsIn net i name net.edges

theorem ends_eq_sym (net : ANet) (i : Nat) (name : String) :
    ends net i name = sym ((net.edges.filter fun e => e.2.2 = name).map fun e =>
      (excess (jdOf net e.1) i, excess (jdOf net e.2.1) i)) := by
  rw [sym, List.flatMap_map]; rfl

theorem forall_mem_ends {net : ANet} {i : Nat} {name : String} {P : JD → Prop}
    (h : ∀ e ∈ net.edges, e.2.2 = name → P (excess (jdOf net e.1) i) ∧ P (excess (jdOf net e.2.1) i)) :
    ∀ q ∈ ends net i name, P q.1 ∧ P q.2 := by
  rw [ends_eq_sym]
  refine forall_mem_sym fun p hp => ?_
  obtain ⟨e, he, rfl⟩ := List.mem_map.1 hp
  exact h e (List.mem_filter.1 he).1 (of_decide_eq_true (List.mem_filter.1 he).2)

/-- `get_ejk` files the weight `1/(2E)` under the concatenated tuples of every edge end (the self-paired
    branch `+ 1/E` is two successive `+ 1/(2E)` on the same key) -/
theorem getEjk_eq_tally (net : ANet) (ne : List (String × Nat)) (i : Nat) (name : String) :
    getEjk net ne i name = Dict.tally (fun q : JD × JD => q.1 ++ q.2)
      (fun _ => (1 / 2) / (((Dict.get ne name).getD 0 : Nat) : Rat)) [] (ends net i name) := by
  rw [Dict.tally, ends, endsIn, List.foldl_flatMap, List.foldl_filter]
  refine congrArg (fun f => List.foldl f [] net.edges) (funext fun acc => funext fun e => ?_)
  by_cases h : e.2.2 = name
  · rw [if_pos h, if_pos (decide_eq_true h)]
    dsimp only
    split
    · next heq =>
      rw [List.foldl_cons, List.foldl_cons, List.foldl_nil, ← heq, Dict.update_update_self]
      exact congrArg _ (funext fun x => by rw [Function.comp, add_assoc, ← add_div, add_halves])
    · rfl
  · rw [if_neg h, if_neg (by rwa [decide_eq_true_eq])]

theorem getElem_getEjks (net : ANet) (names : List String) (s : Ext) {j : Nat} (hj : j < names.length) :
    (getEjks net names s).2[j]? = some (names[j], getEjk net (countEdgeTypes net []) j names[j]) := by
  rw [getEjks, List.getElem?_map, List.getElem?_zipIdx, List.getElem?_eq_getElem hj, Option.map_some,
    Option.map_some, Nat.zero_add]

theorem length_excess (jd : JD) (i : Nat) : (excess jd i).length = jd.length := List.length_modify ..

theorem jdOf_mem {net : ANet} {v : Nat} (hv : (Dict.get net.jd v).isSome) : (v, jdOf net v) ∈ net.jd := by
  obtain ⟨jd, hg⟩ := Option.isSome_iff_exists.1 hv
  rw [jdOf, hg]; exact Dict.mem_of_get hg

theorem lengths_of_mem_ends {net : ANet} {T : Nat} (hU : Uniform net T) (hA : Annotated net) (i : Nat)
    (name : String) : ∀ q ∈ ends net i name, q.1.length = T ∧ q.2.length = T :=
  forall_mem_ends (P := (·.length = T)) fun e he _ =>
    ⟨(length_excess ..).trans (hU _ (jdOf_mem (hA e he).1)), (length_excess ..).trans (hU _ (jdOf_mem (hA e he).2))⟩

/-- edge ends as (own excess degree, partner's excess degree), degrees given by `deg` -/
def oEndsIn (deg : Nat → Nat) (es : List (Nat × Nat)) : List (Nat × Nat) :=
  es.flatMap fun e => [(deg e.1 - 1, deg e.2 - 1), (deg e.2 - 1, deg e.1 - 1)]

/-- the edge ends of a graph: every edge `(u, v)` contributes `(deg u - 1, deg v - 1)` and
    `(deg v - 1, deg u - 1)` -/
def oEnds (edges : List (Nat × Nat)) : List (Nat × Nat) := oEndsIn (degree edges) edges

theorem oEnds_eq_sym (edges : List (Nat × Nat)) :
    oEnds edges = sym (edges.map fun e => (degree edges e.1 - 1, degree edges e.2 - 1)) := by
  rw [sym, List.flatMap_map]; rfl

theorem overallEjk_eq_tally (edges : List (Nat × Nat)) :
    overallEjk edges = Dict.tally (fun q : Nat × Nat => [q.1, q.2])
      (fun _ => (1 / 2) / ((edges.length : Nat) : Rat)) [] (oEnds edges) := by
  rw [Dict.tally, oEnds, oEndsIn, List.foldl_flatMap]; rfl

end Gcmpy.Mixing
