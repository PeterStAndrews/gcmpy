import GcmpyModel.Model.Loaders
import GcmpyModel.Lemmas.DictTally
import Mathlib.Algebra.Order.Field.Rat
import Mathlib.Data.List.Nodup
import Mathlib.Algebra.Order.BigOperators.Group.List
/-!
Lemmas for property C06 (deterministic joint-degree loaders), model `GcmpyModel/Model/Loaders.lean`: `Counter` as
the tally of `Lemmas/DictTally.lean` with weight 1, and the facts about `normalise` (`normalise_ok_iff` and what
follows from it) through which every normalised table goes.
-/
namespace Gcmpy.Loaders
open Gcmpy

theorem sum_map_div {α : Type} (l : List α) (g : α → Rat) (z : Rat) :
    (l.map fun a => g a / z).sum = (l.map g).sum / z := by
  induction l with
  | nil => simp
  | cons x xs ih => simp only [List.map_cons, List.sum_cons, ih, add_div]

theorem counterFrom_eq_tally (ys : List JD) (d : List (JD × Nat)) :
    counterFrom ys d = Dict.tally id (fun _ => 1) d ys := by
  induction ys generalizing d with
  | nil => rfl
  | cons y ys ih => exact ih _

theorem empirical_eq (jds : List JD) :
    empirical jds = (counter jds).map fun p => (p.1, ((p.2 : Nat) : Rat) / (jds.length : Rat)) := rfl

theorem empirical_keys (jds : List JD) : (empirical jds).map (·.1) = Dict.keys (counter jds) :=
  List.map_map

theorem normalise_ok_iff {t T : Table} :
    normalise t = .ok T ↔
      (t ≠ [] → (t.map (·.2)).sum ≠ 0) ∧ T = t.map fun p => (p.1, p.2 / (t.map (·.2)).sum) := by
  simp only [normalise, ← List.sum_eq_foldl, List.isEmpty_iff]
  split
  · next ht => subst ht; simp [eq_comm]
  · next ht =>
    split
    · next hz => simp [ht, hz]
    · next hz => simp [hz, eq_comm]

theorem normalise_error_iff {t : Table} :
    normalise t = .error .zeroDivision ↔ t ≠ [] ∧ (t.map (·.2)).sum = 0 := by
  simp only [normalise, ← List.sum_eq_foldl, List.isEmpty_iff]
  split
  · next ht => simp [ht]
  · next ht => split <;> simp [*]

section
variable {t T : Table} (h : normalise t = .ok T)
include h

theorem normalise_keys : T.map (·.1) = t.map (·.1) := by
  rw [(normalise_ok_iff.1 h).2, List.map_map]; rfl

theorem normalise_get (k : JD) : Dict.get T k = (Dict.get t k).map (· / (t.map (·.2)).sum) := by
  rw [(normalise_ok_iff.1 h).2]; exact Dict.get_map_val t (fun _ v => v / _) k

theorem normalise_sums_one (hT : T ≠ []) : (T.map (·.2)).sum = 1 := by
  obtain ⟨hz, rfl⟩ := normalise_ok_iff.1 h
  rw [List.map_map]
  exact (sum_map_div t (·.2) _).trans (div_self (hz fun e => hT (by rw [e]; rfl)))

theorem normalise_nonneg (h0 : ∀ p ∈ t, 0 ≤ p.2) : ∀ p ∈ T, 0 ≤ p.2 := by
  obtain ⟨-, rfl⟩ := normalise_ok_iff.1 h
  intro p hp
  obtain ⟨q, hq, rfl⟩ := List.mem_map.1 hp
  exact div_nonneg (h0 q hq) (List.sum_nonneg fun _ hx => by
    obtain ⟨a, ha, rfl⟩ := List.mem_map.1 hx; exact h0 a ha)

end

theorem marginalDirect_eq (fs : List (Nat → Rat)) (bounds : List (Nat × Nat)) :
    marginalDirect fs bounds =
      normalise ((product (bounds.map fun (lo, hi) => rangeAB lo hi)).map fun k => (k, marginalWeight fs k)) :=
  rfl

theorem sampledCalls_length (fs : List (Nat → Rat)) (bounds : List (Nat × Nat)) (n : Nat) :
    (sampledCalls fs bounds n).length = bounds.length := by
  simp [sampledCalls]

theorem length_of_mem_transpose (cols : List (List Nat)) (k : JD) (h : k ∈ transpose cols) :
    k.length = cols.length := by
  cases cols with
  | nil => simp [transpose] at h
  | cons c cs =>
    simp only [transpose, List.mem_map] at h
    obtain ⟨r, _, rfl⟩ := h
    simp

theorem transpose_length_cons (c : List Nat) (cs : List (List Nat)) :
    (transpose (c :: cs)).length = c.length := by
  simp [transpose]

theorem functionLoader_keys (fp : JD → Rat) (bounds : List (Nat × Nat)) :
    (functionLoader fp bounds).map (·.1) = product (bounds.map fun (lo, hi) => rangeAB lo (hi + 1)) :=
  List.map_map.trans (List.map_id _)

end Gcmpy.Loaders
