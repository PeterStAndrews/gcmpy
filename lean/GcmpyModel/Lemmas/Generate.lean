import GcmpyModel.Model.Generate
import GcmpyModel.Lemmas.Shuffle
/-! Both generators cut the shuffled stub lists into the same chunks and make their motif records from the chunks they
take in the same way; what differs is only which chunks a motif gets.  The facts here are about what they share. -/
namespace Gcmpy.Generate

theorem chunks_nil (n : Nat) : chunks n [] = [] := by
  rw [chunks]; simp

theorem chunks_zero (l : List Nat) : chunks 0 l = [] := by
  rw [chunks]; simp

theorem chunks_cons_eq (n : Nat) (l : List Nat) (hn : 0 < n) (hl : l ≠ []) :
    chunks n l = l.take n :: chunks n (l.drop n) := by
  rw [chunks, dif_neg (by simp [hl, Nat.ne_of_gt hn])]

theorem chunks_flatten (n : Nat) (hn : 0 < n) (l : List Nat) : (chunks n l).flatten = l := by
  fun_induction chunks n l with
  | case1 l h => rcases h with rfl | rfl <;> simp at hn ⊢
  | case2 l h ih => simp [ih]

theorem mem_chunks_subset (n : Nat) (l c : List Nat) (hc : c ∈ chunks n l) (x : Nat) (hx : x ∈ c) : x ∈ l := by
  rcases Nat.eq_zero_or_pos n with rfl | hn
  · rw [chunks_zero] at hc; cases hc
  · rw [← chunks_flatten n hn l]; exact List.mem_flatten.2 ⟨c, hc, hx⟩

theorem chunks_of_dvd (n : Nat) (l : List Nat) (hd : n ∣ l.length) :
    (chunks n l).length = l.length / n ∧ ∀ c ∈ chunks n l, c.length = n := by
  fun_induction chunks n l with
  | case1 l h => rcases h with rfl | rfl <;> simp
  | case2 l h ih =>
    have hle : n ≤ l.length := Nat.le_of_dvd (List.length_pos_iff.2 fun e => h (.inr e)) hd
    obtain ⟨h1, h2⟩ := ih (by rw [List.length_drop]; exact Nat.dvd_sub hd (Nat.dvd_refl n))
    refine ⟨?_, fun c hc => ?_⟩
    · rw [List.length_cons, h1, List.length_drop, ← Nat.div_eq_sub_div (by omega) hle]
    · rcases List.mem_cons.1 hc with rfl | hc
      · rw [List.length_take, Nat.min_eq_left hle]
      · exact h2 c hc

/-! ### blocks and their indexed items

`enumerate` over a list of blocks with a loop over each block inside: the generators' groups, the stubs
(vertex `v` is the tag of `jds[v][k]` units) and the order of the custom generator's pops all have this shape. -/

/-- the items of the blocks, in order, each paired with the index of its block (counting from `i0`) -/
def indexed {β : Type} (i0 : Nat) (L : List (List β)) : List (Nat × β) :=
  (L.zipIdx i0).flatMap fun (b, k) => b.map (k, ·)

section indexed
variable {β : Type}

@[simp] theorem indexed_cons (i0 : Nat) (b : List β) (L : List (List β)) :
    indexed i0 (b :: L) = b.map (i0, ·) ++ indexed (i0 + 1) L := by
  simp [indexed]

theorem indexed_filter (i0 : Nat) (L : List (List β)) (k : Nat) :
    ((indexed i0 L).filter (·.1 = k)).map (·.2) = if i0 ≤ k then L.getD (k - i0) [] else [] := by
  induction L generalizing i0 with
  | nil => simp [indexed]
  | cons b L ih =>
    rw [indexed_cons, List.filter_append, List.map_append, ih, List.filter_map, List.map_map]
    rcases Nat.lt_trichotomy i0 k with h | rfl | h
    · have : k - i0 = (k - (i0 + 1)) + 1 := by omega
      simp [Function.comp_def, Nat.ne_of_lt h, Nat.le_of_lt h, Nat.succ_le_of_lt h, this]
    · simp [Function.comp_def, Nat.not_succ_le_self]
    · simp [Function.comp_def, Nat.ne_of_gt h, Nat.not_le_of_lt h, Nat.not_le_of_lt (Nat.lt_succ_of_lt h)]

theorem indexed_map_snd (i0 : Nat) (L : List (List β)) : (indexed i0 L).map (·.2) = L.flatten := by
  induction L generalizing i0 with
  | nil => rfl
  | cons b L ih => simp [ih, Function.comp_def]

theorem indexed_map_zipIdx {α : Type} (f : α → Nat → List β) (i0 : Nat) (l : List α) :
    indexed i0 ((l.zipIdx i0).map fun (a, k) => f a k) = (l.zipIdx i0).flatMap fun (a, k) => (f a k).map (k, ·) := by
  induction l generalizing i0 with
  | nil => rfl
  | cons a l ih => simp [ih]

theorem mem_indexed {i0 : Nat} {L : List (List β)} {x : Nat × β} (h : x ∈ indexed i0 L) :
    i0 ≤ x.1 ∧ x.2 ∈ L.getD (x.1 - i0) [] := by
  have : x.2 ∈ ((indexed i0 L).filter (·.1 = x.1)).map (·.2) :=
    List.mem_map_of_mem (List.mem_filter.2 ⟨h, by simp⟩)
  rw [indexed_filter] at this
  split at this
  · exact ⟨‹_›, this⟩
  · cases this

end indexed

theorem stubsFrom_eq (v0 : Nat) (jds : List (List Nat)) (k : Nat) :
    stubsFrom v0 jds k = (indexed v0 (jds.map fun r => List.replicate (r.getD k 0) ())).map (·.1) := by
  induction jds generalizing v0 with
  | nil => rfl
  | cons r rs ih => simp [stubsFrom, ih]

theorem length_stubs (jds : List (List Nat)) (k : Nat) : (stubs jds k).length = colSum jds k := by
  rw [stubs, stubsFrom_eq, List.length_map, ← List.length_map (f := (·.2)), indexed_map_snd]
  simp [colSum, Function.comp_def]

theorem count_stubs (jds : List (List Nat)) (k v : Nat) :
    (stubs jds k).count v = (jds.getD v []).getD k 0 := by
  rw [stubs, stubsFrom_eq, List.count_eq_countP, List.countP_map, List.countP_eq_length_filter,
    ← List.length_map (f := (·.2))]
  refine (congrArg List.length (indexed_filter 0 _ v)).trans ?_
  rw [if_pos (Nat.zero_le _), List.getD_eq_getElem?_getD, List.getElem?_map, List.getD_eq_getElem?_getD (l := jds)]
  cases jds[v]? <;> simp

theorem mem_stubs_lt (jds : List (List Nat)) (k v : Nat) (h : v ∈ stubs jds k) : v < jds.length := by
  have hp : 0 < (stubs jds k).count v := List.count_pos_iff.2 h
  rw [count_stubs] at hp
  rcases Nat.lt_or_ge v jds.length with h1 | h1
  · exact h1
  · simp [List.getD_eq_getElem?_getD, List.getElem?_eq_none h1] at hp

/-- both generators make their records from the list of (type, drawn vertices) pairs in the same way -/
def records {β : Type} (build : Nat → List Nat → β) (gs : List (Nat × List Nat)) : List (Motif β) :=
  gs.zipIdx.map fun ((k, c), id) => ⟨k, id, c, build k c⟩

section records
variable {β : Type} (build : Nat → List Nat → β) (gs : List (Nat × List Nat))

theorem records_proj : (records build gs).map (fun m => (m.top, m.verts)) = gs := by
  rw [records, List.map_map]
  exact (List.map_congr_left fun _ _ => rfl).trans (List.zipIdx_map_fst 0 gs)

theorem records_ids : (records build gs).map (·.id) = List.range gs.length := by
  rw [records, List.map_map, List.range_eq_range']
  exact (List.map_congr_left fun _ _ => rfl).trans (List.zipIdx_map_snd 0 gs)

theorem records_built {m : Motif β} (hm : m ∈ records build gs) : m.built = build m.top m.verts := by
  obtain ⟨_, _, rfl⟩ := List.mem_map.1 hm
  rfl

theorem length_records : (records build gs).length = gs.length := by
  rw [records, List.length_map, List.length_zipIdx]

theorem records_top (k : Nat) :
    ((records build gs).filter (fun m => m.top = k)).map (·.verts) = (gs.filter (·.1 = k)).map (·.2) := by
  conv => rhs; rw [← records_proj build gs]
  rw [List.filter_map, List.map_map]
  rfl

end records

theorem motifsFast_eq_records {β : Type} (sizes : List Nat) (build : Nat → List Nat → β) (σ : List (List Nat)) :
    motifsFast sizes build σ = records build (groups sizes σ) := rfl

theorem motifsCustom_eq_map_records {β : Type} (sizes : List Nat) (orbitLists : List (List Nat))
    (build : Nat → List Nat → β) (σ : List (List Nat)) :
    motifsCustom sizes orbitLists build σ =
      (drawAll sizes σ orbitLists 0 (partitions sizes σ)).map (records build) := rfl

theorem exists_records_of_motifsCustom {β : Type} {sizes : List Nat} {orbitLists : List (List Nat)}
    {build : Nat → List Nat → β} {σ : List (List Nat)} {ms : List (Motif β)}
    (h : motifsCustom sizes orbitLists build σ = some ms) : ∃ gs, ms = records build gs := by
  rw [motifsCustom_eq_map_records] at h
  obtain ⟨gs, _, rfl⟩ := Option.map_eq_some_iff.1 h
  exact ⟨gs, rfl⟩

/-! ### the pool of chunks

Both generators draw from `partitions sizes σ`: column `i` of the shuffled stubs cut into chunks of `sizes[i]`.
The fast generator takes them in order, column after column; the custom generator pops them from the end. -/

theorem length_partitions (sizes : List Nat) (σ : List (List Nat)) : (partitions sizes σ).length = σ.length := by
  simp [partitions]

theorem partitions_getD (sizes : List Nat) (σ : List (List Nat)) (i : Nat) :
    (partitions sizes σ).getD i [] = chunks (sizes.getD i 0) (σ.getD i []) := by
  simp only [partitions, List.getD_eq_getElem?_getD, List.getElem?_map, List.getElem?_zipIdx]
  cases σ[i]? <;> simp [chunks_nil]

theorem groups_eq (sizes : List Nat) (σ : List (List Nat)) : groups sizes σ = indexed 0 (partitions sizes σ) :=
  (indexed_map_zipIdx (fun l k => chunks (sizes.getD k 0) l) 0 σ).symm

theorem motifsFast_top {β : Type} (sizes : List Nat) (build : Nat → List Nat → β) (σ : List (List Nat))
    (k : Nat) :
    ((motifsFast sizes build σ).filter (fun m => m.top = k)).map (·.verts) = (partitions sizes σ).getD k [] := by
  rw [motifsFast_eq_records, records_top, groups_eq, indexed_filter, if_pos (Nat.zero_le _)]
  rfl

theorem motifsFast_mem {β : Type} (sizes : List Nat) (build : Nat → List Nat → β) (σ : List (List Nat))
    (m : Motif β) (hm : m ∈ motifsFast sizes build σ) : m.verts ∈ (partitions sizes σ).getD m.top [] := by
  rw [← motifsFast_top sizes build σ m.top]
  exact List.mem_map.2 ⟨m, List.mem_filter.2 ⟨hm, by simp⟩, rfl⟩

theorem length_shuffled (jds : List (List Nat)) (draws : List (List Nat)) :
    (shuffled jds draws).length = ncols jds := by simp [shuffled]

theorem shuffled_getD (jds : List (List Nat)) (draws : List (List Nat)) (k : Nat) (hk : k < ncols jds) :
    (shuffled jds draws).getD k [] = Shuffle.shuffle (stubs jds k).length (stubs jds k) (draws.getD k []) := by
  rw [shuffled, List.getD_eq_getElem?_getD, List.getElem?_map, List.getElem?_range hk]
  rfl

theorem shuffled_getD_perm (jds : List (List Nat)) (draws : List (List Nat)) (k : Nat) (hk : k < ncols jds) :
    ((shuffled jds draws).getD k []).Perm (stubs jds k) :=
  shuffled_getD jds draws k hk ▸ Shuffle.shuffle_perm _ _ _

section pool
variable (sizes : List Nat) (jds draws : List (List Nat)) {i : Nat}

theorem pool_flatten (hi : i < ncols jds) (hs : 0 < sizes.getD i 0) :
    ((partitions sizes (shuffled jds draws)).getD i []).flatten.Perm (stubs jds i) := by
  rw [partitions_getD, chunks_flatten _ hs]; exact shuffled_getD_perm jds draws i hi

theorem pool_sizes (hi : i < ncols jds) (hd : sizes.getD i 0 ∣ colSum jds i) :
    ((partitions sizes (shuffled jds draws)).getD i []).length = colSum jds i / sizes.getD i 0 ∧
    ∀ c ∈ (partitions sizes (shuffled jds draws)).getD i [], c.length = sizes.getD i 0 := by
  have hl : ((shuffled jds draws).getD i []).length = colSum jds i := by
    rw [(shuffled_getD_perm jds draws i hi).length_eq, length_stubs]
  rw [partitions_getD, ← hl]
  exact chunks_of_dvd _ _ (hl ▸ hd)

variable {sizes jds draws}

theorem col_lt_of_mem_pool {c : List Nat} (hc : c ∈ (partitions sizes (shuffled jds draws)).getD i []) :
    i < ncols jds := by
  refine Nat.lt_of_not_le fun h => ?_
  rw [List.getD_eq_getElem?_getD, List.getElem?_eq_none (by rw [length_partitions, length_shuffled]; exact h)] at hc
  cases hc

theorem vertex_lt_of_mem_pool {c : List Nat} (hc : c ∈ (partitions sizes (shuffled jds draws)).getD i []) {v : Nat}
    (hv : v ∈ c) : v < jds.length := by
  have hi := col_lt_of_mem_pool hc
  rw [partitions_getD] at hc
  exact mem_stubs_lt jds i v ((shuffled_getD_perm jds draws i hi).mem_iff.1 (mem_chunks_subset _ _ _ hc v hv))

end pool

theorem motifsFast_top_lt {β : Type} {sizes : List Nat} {build : Nat → List Nat → β} {jds draws : List (List Nat)}
    {m : Motif β} (hm : m ∈ motifsFast sizes build (shuffled jds draws)) : m.top < ncols jds :=
  col_lt_of_mem_pool (motifsFast_mem sizes build _ m hm)

theorem fast_no_motif_of_ge {β : Type} {sizes : List Nat} {build : Nat → List Nat → β}
    {jds draws : List (List Nat)}
    (k : Nat) (hk : ncols jds ≤ k) : (motifsFast sizes build (shuffled jds draws)).filter (fun m => m.top = k) = [] :=
  List.filter_eq_nil_iff.2 fun _ hm e => Nat.not_lt.2 hk (of_decide_eq_true e ▸ motifsFast_top_lt hm)

end Gcmpy.Generate
