import GcmpyModel.Model.Graph
/-!
What `Graph.sublists` and `Graph.combinations` (`itertools.combinations`) list.  Core Lean only, so that lemma files
which need no Mathlib stay free of it.
-/
namespace Gcmpy.Graph

theorem mem_sublists_iff {α : Type} {s l : List α} : s ∈ sublists l ↔ s.Sublist l := by
  induction l generalizing s with
  | nil => simp [sublists]
  | cons x xs ih =>
    simp only [sublists, List.mem_append, List.mem_map, List.sublist_cons_iff, ih]
    constructor
    · rintro (h | ⟨t, ht, rfl⟩)
      · exact Or.inl h
      · exact Or.inr ⟨t, rfl, ht⟩
    · rintro (h | ⟨t, rfl, ht⟩)
      · exact Or.inl h
      · exact Or.inr ⟨t, ht, rfl⟩

theorem sublists_nodup_of_nodup {α : Type} {l : List α} (h : l.Nodup) : (sublists l).Nodup := by
  induction l with
  | nil => simp [sublists]
  | cons x xs ih =>
    rw [List.nodup_cons] at h
    rw [sublists, List.nodup_append]
    refine ⟨ih h.2, (List.pairwise_map.2 ((ih h.2).imp fun hne heq => hne (List.cons.inj heq).2)), ?_⟩
    -- a sublist of `xs` does not contain `x`, so it is none of the lists `x :: t`
    rintro s hs _ hs' rfl
    obtain ⟨t, _, rfl⟩ := List.mem_map.1 hs'
    exact h.1 ((mem_sublists_iff.1 hs).subset List.mem_cons_self)

theorem combinations_zero {α : Type} (l : List α) : combinations 0 l = [[]] := by
  cases l <;> rfl

theorem combinations_map {α β : Type} (f : α → β) : ∀ (k : Nat) (l : List α),
    combinations k (l.map f) = (combinations k l).map (List.map f)
  | 0, l => by rw [combinations_zero, combinations_zero]; rfl
  | _+1, [] => rfl
  | k+1, x :: xs => by
    simp only [List.map_cons, combinations, combinations_map f k xs, combinations_map f (k+1) xs, List.map_append,
      List.map_map, Function.comp_def]

theorem combinations_perm_filter {α : Type} (l : List α) :
    ∀ k, (combinations k l).Perm ((sublists l).filter fun s => s.length = k) := by
  induction l with
  | nil =>
    intro k
    cases k <;> simp [combinations, sublists]
  | cons x xs ih =>
    intro k
    cases k with
    | zero =>
      have h := ih 0
      rw [combinations_zero] at h ⊢
      simp only [sublists, List.filter_append, List.filter_map]
      have : (List.filter ((fun s : List α => decide (s.length = 0)) ∘ fun t => x :: t) (sublists xs)) = [] := by
        rw [List.filter_eq_nil_iff]; intro a _; simp
      rw [this, List.map_nil, List.append_nil]
      exact h
    | succ k =>
      simp only [combinations, sublists, List.filter_append, List.filter_map]
      have : (List.filter ((fun s : List α => decide (s.length = k + 1)) ∘ fun t => x :: t) (sublists xs))
          = List.filter (fun s => decide (s.length = k)) (sublists xs) := by
        apply List.filter_congr; intro a _; simp
      rw [this]
      exact List.perm_append_comm.trans ((ih (k+1)).append ((ih k).map _))

theorem mem_combinations_iff {α : Type} {s l : List α} {k : Nat} :
    s ∈ combinations k l ↔ s.Sublist l ∧ s.length = k := by
  rw [(combinations_perm_filter l k).mem_iff, List.mem_filter, mem_sublists_iff, decide_eq_true_eq]

theorem combinations_eq_nil {α : Type} (l : List α) (k : Nat) (h : l.length < k) : combinations k l = [] :=
  List.eq_nil_iff_forall_not_mem.2 fun _ hs =>
    have ⟨hsub, hlen⟩ := mem_combinations_iff.1 hs
    absurd hsub.length_le (by omega)

end Gcmpy.Graph
