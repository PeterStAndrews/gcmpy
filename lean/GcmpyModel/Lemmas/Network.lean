import GcmpyModel.Model.Network
import GcmpyModel.Lemmas.Dict
import GcmpyModel.Lemmas.ListFacts
import GcmpyModel.Lemmas.NormE
/-!
The edge-list <-> network conversion model (C04).  The four loops of `toNetwork` are assignment loops over dicts
(`Dict.setAll`, key lists by `Dict.addKey`); `edge_attrs` says where the attributes of a stored edge come from.
-/
namespace Gcmpy.Network
open Gcmpy

abbrev Attr := Option String × Option Nat
abbrev EDict := List (Key × Attr)

/-- every vertex mentioned by an edge row is < N = number of joint-degree rows -/
def InRange (el : EL) : Prop :=
  ∀ e ∈ el.edges, e.1 < el.jointDegrees.length ∧ e.2 < el.jointDegrees.length
def Parallel (el : EL) : Prop :=
  el.topologies.length = el.edges.length ∧ el.motifId.length = el.edges.length

/-! The model's `norm` and `addNode` are `Graph.normE` and `Dict.addKey` under other names. -/

theorem norm_eq_normE (e : Nat × Nat) : norm e = Graph.normE e := rfl

theorem addNode_eq_addKey (ns : List Nat) (n : Nat) : addNode ns n = Dict.addKey ns n := rfl

theorem norm_norm (e : Nat × Nat) : norm (norm e) = norm e := by
  rw [norm_eq_normE, norm_eq_normE, Graph.normE_normE]

theorem norm_fst_le (e : Nat × Nat) : (norm e).1 ≤ (norm e).2 :=
  Nat.le_trans (Nat.min_le_left ..) (Nat.le_max_left ..)

theorem norm_lt {e : Nat × Nat} {N : Nat} (h : e.1 < N ∧ e.2 < N) : (norm e).1 < N ∧ (norm e).2 < N :=
  ⟨Nat.lt_of_le_of_lt (Nat.min_le_left ..) h.1, Nat.max_lt.2 h⟩

theorem addEdges_eq (nodes : List Nat) (E : EDict) (es : List (Nat × Nat)) :
    (addEdges nodes E es).1 = (es.flatMap fun e => [e.1, e.2]).foldl Dict.addKey nodes ∧
    Dict.keys (addEdges nodes E es).2 = (es.map norm).foldl Dict.addKey (Dict.keys E) := by
  induction es generalizing nodes E with
  | nil => exact ⟨rfl, rfl⟩
  | cons e r ih =>
    obtain ⟨u, v⟩ := e
    rw [addEdges, addNode_eq_addKey, addNode_eq_addKey]
    refine ⟨(ih _ _).1, (ih _ _).2.trans ?_⟩
    rw [List.map_cons, List.foldl_cons, Dict.addKey]
    by_cases hc : norm (u, v) ∈ Dict.keys E
    · rw [if_pos hc, if_pos ((Dict.contains_iff_mem_keys _ _).2 hc)]
    · rw [if_neg hc, if_neg (mt (Dict.contains_iff_mem_keys _ _).1 hc)]; simp [Dict.keys]

theorem attrDict_eq (rows d : List ((Nat × Nat) × (String × Nat))) : attrDict rows d = Dict.setAll d rows := by
  induction rows generalizing d with
  | nil => rfl
  | cons r rs ih => exact ih _

theorem setJd_eq (nodes : List Nat) (l d : List (Nat × List Nat)) :
    setJd nodes l d = Dict.setAll d (l.filter (·.1 ∈ nodes)) := by
  induction l generalizing d with
  | nil => rfl
  | cons x r ih =>
    rw [setJd, ih, List.filter_cons]
    split <;> simp [*]

/-- attributes are written to the edges that exist; the key list does not change on the way -/
theorem applyAttrs_eq (E : EDict) (D : List ((Nat × Nat) × (String × Nat))) :
    applyAttrs E D = Dict.setAll E
      ((D.filter fun x => norm x.1 ∈ Dict.keys E).map fun x => (norm x.1, (some x.2.1, some x.2.2))) := by
  induction D generalizing E with
  | nil => rfl
  | cons x r ih =>
    rw [applyAttrs, ih, List.filter_cons]
    by_cases hc : norm x.1 ∈ Dict.keys E
    · rw [if_pos ((Dict.contains_iff_mem_keys _ _).2 hc), Dict.keys_set_of_mem _ _ _ hc]; simp [hc]
    · rw [if_neg (mt (Dict.contains_iff_mem_keys _ _).1 hc)]; simp [hc]

/-- the rows `zip(edge_list, topologies, motif_id)` -/
abbrev EL.rows (el : EL) : List ((Nat × Nat) × (String × Nat)) := el.edges.zip (el.topologies.zip el.motifId)

theorem toNetwork_nodes (el : EL) :
    (toNetwork el).nodes = (addEdges (List.range el.jointDegrees.length) [] el.edges).1 := rfl

theorem toNetwork_jd (el : EL) :
    (toNetwork el).jd =
      setJd (toNetwork el).nodes (el.jointDegrees.zipIdx.map fun (j, n) => (n, j)) [] := rfl

theorem toNetwork_edges (el : EL) :
    (toNetwork el).edges =
      applyAttrs (addEdges (List.range el.jointDegrees.length) [] el.edges).2 (attrDict el.rows []) := rfl

theorem keys_applyAttrs (E : EDict) (D : List ((Nat × Nat) × (String × Nat))) :
    Dict.keys (applyAttrs E D) = Dict.keys E := by
  rw [applyAttrs_eq, Dict.keys_setAll]
  refine Dict.foldl_addKey_of_subset _ _ fun k hk => ?_
  obtain ⟨_, hy, rfl⟩ := List.mem_map.1 hk
  obtain ⟨x, hx, rfl⟩ := List.mem_map.1 hy
  simpa using (List.mem_filter.1 hx).2

theorem get_applyAttrs (E : EDict) (D : List ((Nat × Nat) × (String × Nat))) (k : Key) (hk : k ∈ Dict.keys E) :
    ((∀ x ∈ D, norm x.1 ≠ k) ∧ Dict.get (applyAttrs E D) k = Dict.get E k) ∨
    ∃ x ∈ D, norm x.1 = k ∧ Dict.get (applyAttrs E D) k = some (some x.2.1, some x.2.2) := by
  rw [applyAttrs_eq]
  rcases Dict.get_setAll_cases _ E k with ⟨h1, h2⟩ | ⟨v, h1, h2⟩
  · refine .inl ⟨fun x hx e =>
      h1 (List.mem_map.2 ⟨_, List.mem_map_of_mem (List.mem_filter.2 ⟨hx, ?_⟩), e⟩), h2⟩
    simpa [e] using hk
  · obtain ⟨x, hx, e⟩ := List.mem_map.1 h1
    cases e
    exact .inr ⟨x, (List.mem_filter.1 hx).1, rfl, h2⟩

theorem keys_toNetwork_edges (el : EL) :
    Dict.keys (toNetwork el).edges = (el.edges.map norm).foldl Dict.addKey [] := by
  rw [toNetwork_edges, keys_applyAttrs, (addEdges_eq _ _ _).2]; rfl

theorem Parallel.rows_fst {el : EL} (hp : Parallel el) : el.rows.map (·.1) = el.edges :=
  List.map_fst_zip (by simp [hp.1, hp.2])

theorem Parallel.rows_snd {el : EL} (hp : Parallel el) :
    el.rows.map (·.2.1) = el.topologies ∧ el.rows.map (·.2.2) = el.motifId := by
  have h0 : el.rows.map Prod.snd = el.topologies.zip el.motifId := List.map_snd_zip (by simp [hp.1, hp.2])
  constructor
  · rw [← List.map_fst_zip (l₁ := el.topologies) (l₂ := el.motifId) (by simp [hp.1, hp.2]), ← h0,
      List.map_map]; rfl
  · rw [← List.map_snd_zip (l₁ := el.topologies) (l₂ := el.motifId) (by simp [hp.1, hp.2]), ← h0,
      List.map_map]; rfl

theorem Parallel.rows_norm {el : EL} (hp : Parallel el) : (el.rows.map fun r => norm r.1) = el.edges.map norm := by
  rw [← hp.rows_fst, List.map_map]; rfl

/-- the keys under which `set_node_attributes` is handed the joint degrees -/
theorem keys_enum (jds : List (List Nat)) :
    Dict.keys (jds.zipIdx.map fun (j, n) => (n, j)) = List.range jds.length := by
  rw [Dict.keys, List.map_map, List.range_eq_range']
  exact (List.map_congr_left fun _ _ => rfl).trans (List.zipIdx_map_snd 0 _)

/-- the attributes stored under a pair are those of one of the rows with that pair -/
theorem edge_attrs (el : EL) (k : Key) (hk : ∃ r ∈ el.rows, norm r.1 = k) :
    ∃ r ∈ el.rows, norm r.1 = k ∧ Dict.get (toNetwork el).edges k = some (some r.2.1, some r.2.2) := by
  obtain ⟨r, hr, rfl⟩ := hk
  have hE : norm r.1 ∈ Dict.keys (addEdges (List.range el.jointDegrees.length) [] el.edges).2 := by
    rw [(addEdges_eq _ _ _).2, Dict.mem_foldl_addKey]
    exact .inr (List.mem_map_of_mem (List.of_mem_zip hr).1)
  have hD : ∀ x ∈ attrDict el.rows [], x ∈ el.rows := fun x hx =>
    (Dict.mem_setAll _ _ _ (attrDict_eq _ _ ▸ hx)).resolve_left (by simp)
  rcases get_applyAttrs _ (attrDict el.rows []) _ hE with ⟨h1, _⟩ | ⟨x, hx, h1, h2⟩
  · -- the row's oriented pair is a key of the attribute dict
    have : r.1 ∈ Dict.keys (attrDict el.rows []) := by
      rw [attrDict_eq, Dict.mem_keys_setAll]; exact .inr (List.mem_map_of_mem hr)
    obtain ⟨x, hx, hxr⟩ := List.mem_map.1 this
    exact (h1 x hx (by rw [hxr])).elim
  · exact ⟨x, hD x hx, h1, h2⟩

theorem Net.ext {a b : Net} (h1 : a.nodes = b.nodes) (h2 : a.jd = b.jd) (h3 : a.edges = b.edges) :
    a = b := by
  cases a; cases b; simp_all

theorem toEdgeList_eq_some (net : Net) (jds : List (List Nat)) (tops : List String) (ids : List Nat)
    (h1 : (List.range net.nodes.length).map
      (fun n => if n ∈ net.nodes then Dict.get net.jd n else none) = jds.map some)
    (h2 : net.edges.map (fun x => x.2.1) = tops.map some)
    (h3 : net.edges.map (fun x => x.2.2) = ids.map some) :
    toEdgeList net =
      some { edges := net.edges.map (·.1), topologies := tops, motifId := ids, jointDegrees := jds } := by
  have h2' : net.edges.mapM (fun x : Key × Attr => match x with | (_, a) => a.1) = some tops :=
    List.mapM_option_eq_some_iff.2 h2
  have h3' : net.edges.mapM (fun x : Key × Attr => match x with | (_, a) => a.2) = some ids :=
    List.mapM_option_eq_some_iff.2 h3
  simp [toEdgeList, List.mapM_option_eq_some_iff.2 h1, h2', h3']

end Gcmpy.Network
