import GcmpyModel.Model.Automated
import GcmpyModel.Lemmas.Dict
/-!
The two structural caches of the `AutomatedEquation` evaluator (`_connected_subgraphs`, `_edge_combinations`)
are transparent: as long as equal names denote equal motifs, the cached evaluator returns exactly the value
of a fresh (stateless) evaluation, whatever was evaluated before.
-/
namespace Gcmpy.Automated
open Gcmpy Gcmpy.Graph

/-- every cache entry is what a fresh computation on the denoted motif returns; `γ name` is the motif that the name
denotes ("distinctly named motifs": equal names denote equal graphs) -/
def Valid (γ : String → Motif) (st : Caches) : Prop :=
  (∀ root name r, Dict.get st.conn (root, name) = some r → r = connectedSubgraphs (γ name) root) ∧
  (∀ c name r, Dict.get st.combos (c, name) = some r → r = edgeCombinations (inner (γ name) c))

/-- storing `f a b` under `(a, b)` keeps "every stored value is the value of `f` at its key" -/
theorem stores_set {α β ν : Type} [DecidableEq α] [DecidableEq β] {f : α → β → ν}
    {d : List ((α × β) × ν)}
    (hd : ∀ a b r, Dict.get d (a, b) = some r → r = f a b) (a₀ : α) (b₀ : β) :
    ∀ a b r, Dict.get (Dict.set d (a₀, b₀) (f a₀ b₀)) (a, b) = some r → r = f a b := by
  intro a b r h
  rw [Dict.get_set] at h
  split at h
  · next e => cases h; cases e; rfl
  · exact hd a b r h

theorem valid_empty (γ : String → Motif) : Valid γ Caches.empty := ⟨nofun, nofun⟩

theorem getConn_spec {γ : String → Motif} {st : Caches} {G : Motif} {name : String} (root : Nat)
    (hv : Valid γ st) (hG : γ name = G) :
    (getConn st G name root).2 = connectedSubgraphs G root ∧ Valid γ (getConn st G name root).1 := by
  subst hG
  unfold getConn
  cases h : Dict.get st.conn (root, name) with
  | some r => exact ⟨hv.1 root name r h, hv⟩
  | none => exact ⟨rfl, stores_set (f := fun root name => connectedSubgraphs (γ name) root) hv.1 root name, hv.2⟩

theorem getCombos_spec {γ : String → Motif} {st : Caches} {g : Motif} {name : String} (c : List Nat)
    (hv : Valid γ st) (hg : g = inner (γ name) c) :
    (getCombos st g name c).2 = edgeCombinations g ∧ Valid γ (getCombos st g name c).1 := by
  subst hg
  unfold getCombos
  cases h : Dict.get st.combos (c, name) with
  | some r => exact ⟨hv.2 c name r h, hv⟩
  | none => exact ⟨rfl, hv.1, stores_set (f := fun c name => edgeCombinations (inner (γ name) c)) hv.2 c name⟩

section ring
variable {R : Type} [Add R] [Sub R] [Mul R] [OfNat R 0] [OfNat R 1]

theorem cache_transparent {γ : String → Motif} {st : Caches} {G : Motif} {name : String}
    (p : R) (u : Nat → R) (root : Nat) (hv : Valid γ st) (hG : γ name = G) :
    (automatedEquationM st G name p u root).2 = automatedEquation G p u root
      ∧ Valid γ (automatedEquationM st G name p u root).1 := by
  have hs := getConn_spec root hv hG
  unfold automatedEquationM automatedEquation
  generalize getConn st G name root = x at hs ⊢
  obtain ⟨st, comps⟩ := x
  obtain ⟨rfl, hv⟩ : comps = connectedSubgraphs G root ∧ Valid γ st := hs
  -- the cached and the fresh fold over the components stay related: same number, valid caches
  refine List.foldl_rel (r := fun (a : Caches × R) (r : R) => a.2 = r ∧ Valid γ a.1) ⟨rfl, hv⟩
    fun c _ a r h => ?_
  split
  · exact ⟨h.1 ▸ rfl, h.2⟩
  · have hs := getCombos_spec c h.2 (by rw [hG])
    exact ⟨by rw [h.1, ← hs.1], hs.2⟩

/-- one call on the evaluator object: the motif is referred to by its name -/
structure Call (R : Type) where
  name : String
  p : R
  u : Nat → R
  root : Nat

/-- a sequence of calls on one evaluator, threading the caches -/
def runCalls (γ : String → Motif) : Caches → List (Call R) → Caches × List R
  | st, [] => (st, [])
  | st, c :: cs =>
    let (st', v) := automatedEquationM st (γ c.name) c.name c.p c.u c.root
    let (st'', vs) := runCalls γ st' cs
    (st'', v :: vs)

theorem runCalls_spec (γ : String → Motif) (calls : List (Call R)) :
    ∀ st : Caches, Valid γ st →
      (runCalls γ st calls).2 = calls.map (fun c => automatedEquation (γ c.name) c.p c.u c.root)
      ∧ Valid γ (runCalls γ st calls).1 := by
  induction calls with
  | nil => intro st hv; exact ⟨rfl, hv⟩
  | cons c cs ih =>
    intro st hv
    have h1 := cache_transparent c.p c.u c.root hv (rfl : γ c.name = γ c.name)
    have h2 := ih _ h1.2
    simp only [runCalls, List.map_cons]
    exact ⟨by rw [h1.1, h2.1], h2.2⟩

theorem calls_independent_of_history (γ : String → Motif) (calls : List (Call R)) :
    (runCalls γ Caches.empty calls).2 = calls.map (fun c => automatedEquation (γ c.name) c.p c.u c.root) :=
  (runCalls_spec γ calls Caches.empty (valid_empty γ)).1

end ring

/-! ### why "distinctly named" is needed -/

def cexEdge : Motif := ⟨[0, 1], [(0, 1)]⟩
def cexPath : Motif := ⟨[0, 1, 2], [(0, 1), (1, 2)]⟩

/-- Two different motifs evaluated under the same name `"m"` (root 0, `p = 2`, `u ≡ 3`, over `Int`):
    the second value comes from the stale cache entry of the first motif and differs from the stateless value. -/
example :
    let st1 := (automatedEquationM (R := Int) Caches.empty cexEdge "m" 2 (fun _ => 3) 0).1
    (automatedEquationM (R := Int) st1 cexPath "m" 2 (fun _ => 3) 0).2
      ≠ automatedEquation (R := Int) cexPath 2 (fun _ => 3) 0 := by
  decide +kernel

/-- the concrete values: the stale `"0-m"` entry `[[0], [1, 0]]` hides the component `[2, 1, 0]`, giving `-7`
    instead of `29` -/
example :
    let st1 := (automatedEquationM (R := Int) Caches.empty cexEdge "m" 2 (fun _ => 3) 0).1
    (automatedEquationM (R := Int) st1 cexPath "m" 2 (fun _ => 3) 0).2 = -7
      ∧ automatedEquation (R := Int) cexPath 2 (fun _ => 3) 0 = 29
      ∧ Dict.get st1.conn (0, "m") = some [[0], [1, 0]]
      ∧ connectedSubgraphs cexPath 0 = [[0], [1, 0], [2, 1, 0]] := by
  decide +kernel

end Gcmpy.Automated
