import Mathlib.Analysis.SpecificLimits.Basic
import Mathlib.Analysis.SpecialFunctions.Exponential
import Mathlib.Analysis.SpecialFunctions.Pow.Real
import Mathlib.Analysis.SpecialFunctions.Pow.Asymptotics
import Mathlib.Analysis.PSeries
import GcmpyModel.Model.Distributions
/-!
Real-number model of `gcmpy/distributions/{exponential,poisson,power_law,scale_free_cut_off}.py` (`expo`, `pois`,
the loop terms `zterm`, `lterm`, and `StopsAt` / `partialSum` for what a truncation loop returns) and the lemmas
for property C19.  The zeta tail is bounded by comparison with `Σ 1/k²`, which telescopes (Mathlib's
`sum_Ioc_inv_sq_le_sub`; hence `α ≥ 2`), the polylogarithm tail by a geometric series; what either bound says
about the truncated normaliser is `Truncates`.  `sumLoop` ties the two executable loops of
`Model/Distributions.lean` to `StopsAt` / `partialSum`.
-/
open Finset Filter Topology

namespace Gcmpy.Distributions

/-- `exponential(a)(k) = (1 - exp(-a)) * exp(-a*k)` -/
noncomputable def expo (a : ℝ) (k : ℕ) : ℝ := (1 - Real.exp (-a)) * Real.exp (-a * k)
/-- `poisson(m)(k) = exp(-m) * m^k / k!` -/
noncomputable def pois (m : ℝ) (k : ℕ) : ℝ := Real.exp (-m) * m ^ k / (Nat.factorial k)
/-- the `k`-th term `1 / k**s` of the zeta loop (real exponent) -/
noncomputable def zterm (α : ℝ) (k : ℕ) : ℝ := 1 / (k : ℝ) ^ α
/-- the `k`-th term `z**k / k**s` of the polylogarithm loop (real exponent) -/
noncomputable def lterm (α z : ℝ) (k : ℕ) : ℝ := z ^ k / (k : ℝ) ^ α
/-- the loop stops at the first index `K ≥ 1` whose term is below the tolerance and returns the
partial sum up to and including `K` -/
def StopsAt (term : ℕ → ℝ) (tol : ℝ) (K : ℕ) : Prop :=
  1 ≤ K ∧ term K < tol ∧ ∀ k, 1 ≤ k → k < K → ¬ term k < tol
noncomputable def partialSum (term : ℕ → ℝ) (K : ℕ) : ℝ := ∑ k ∈ Finset.Icc 1 K, term k

theorem stopsAt_of_exists {term : ℕ → ℝ} {tol : ℝ} (h : ∃ k, 1 ≤ k ∧ term k < tol) :
    ∃ K, StopsAt term tol K := by
  classical
  refine ⟨Nat.find h, (Nat.find_spec h).1, (Nat.find_spec h).2, ?_⟩
  intro k hk1 hkK hlt
  exact Nat.find_min h hkK ⟨hk1, hlt⟩

theorem StopsAt.unique {term : ℕ → ℝ} {tol : ℝ} {K K' : ℕ} (h : StopsAt term tol K)
    (h' : StopsAt term tol K') : K = K' := by
  rcases lt_trichotomy K K' with hlt | heq | hgt
  · exact absurd h.2.1 (h'.2.2 K h.1 hlt)
  · exact heq
  · exact absurd h'.2.1 (h.2.2 K' h'.1 hgt)

theorem partialSum_zero (term : ℕ → ℝ) : partialSum term 0 = 0 := by
  simp [partialSum]

theorem partialSum_succ (term : ℕ → ℝ) (K : ℕ) :
    partialSum term (K + 1) = partialSum term K + term (K + 1) := by
  unfold partialSum
  rw [Finset.sum_Icc_succ_top (by omega)]

theorem partialSum_eq_range (term : ℕ → ℝ) (K : ℕ) :
    partialSum term K = ∑ i ∈ Finset.range K, term (i + 1) := by
  rw [partialSum, Finset.range_eq_Ico, Finset.sum_Ico_add' term 0 K 1, Finset.Ico_add_one_right_eq_Icc]

theorem tail_eq {term : ℕ → ℝ} (hs : Summable (fun i : ℕ => term (i + 1))) (K : ℕ) :
    (∑' i : ℕ, term (i + 1)) - partialSum term K = ∑' i : ℕ, term (i + K + 1) := by
  have h := hs.sum_add_tsum_nat_add K
  rw [partialSum_eq_range]
  linarith

theorem summable_tail {term : ℕ → ℝ} (hs : Summable (fun i : ℕ => term (i + 1))) (K : ℕ) :
    Summable (fun i : ℕ => term (i + K + 1)) :=
  (summable_nat_add_iff (f := fun i : ℕ => term (i + 1)) K).2 hs

theorem partialSum_ge_first {term : ℕ → ℝ} (h0 : ∀ k, 0 ≤ term k) {K : ℕ} (hK : 1 ≤ K) :
    term 1 ≤ partialSum term K := by
  unfold partialSum
  exact Finset.single_le_sum (f := term) (fun i _ => h0 i) (Finset.mem_Icc.2 ⟨le_refl 1, hK⟩)

theorem expo_eq (a : ℝ) (k : ℕ) : expo a k = (1 - Real.exp (-a)) * Real.exp (-a) ^ k := by
  unfold expo
  rw [← Real.exp_nat_mul, mul_comm (k : ℝ)]

theorem zterm_nonneg (α : ℝ) (k : ℕ) : 0 ≤ zterm α k := by
  unfold zterm; positivity

theorem zterm_pos (α : ℝ) {k : ℕ} (hk : 1 ≤ k) : 0 < zterm α k := by
  unfold zterm
  have : (0 : ℝ) < k := by exact_mod_cast hk
  positivity

theorem zterm_one (α : ℝ) : zterm α 1 = 1 := by
  simp [zterm]

theorem lterm_nonneg (α : ℝ) {z : ℝ} (hz : 0 ≤ z) (k : ℕ) : 0 ≤ lterm α z k := by
  unfold lterm; positivity

theorem lterm_pos (α : ℝ) {z : ℝ} (hz : 0 < z) {k : ℕ} (hk : 1 ≤ k) : 0 < lterm α z k := by
  unfold lterm
  have : (0 : ℝ) < k := by exact_mod_cast hk
  positivity

theorem lterm_one (α z : ℝ) : lterm α z 1 = z := by
  simp [lterm]

theorem lterm_le_pow {α z : ℝ} (hα : 0 ≤ α) (hz : 0 ≤ z) {k : ℕ} (hk : 1 ≤ k) :
    lterm α z k ≤ z ^ k := by
  unfold lterm
  exact div_le_self (pow_nonneg hz k) (Real.one_le_rpow (by exact_mod_cast hk) hα)

theorem stopsAt_of_tendsto {term : ℕ → ℝ} {tol : ℝ} (h : Tendsto term atTop (𝓝 0)) (htol : 0 < tol) :
    ∃ K, StopsAt term tol K :=
  stopsAt_of_exists ((eventually_ge_atTop 1).and (h.eventually_lt_const htol)).exists

theorem tendsto_zterm {α : ℝ} (hα : 0 < α) : Tendsto (zterm α) atTop (𝓝 0) :=
  tendsto_const_nhds.div_atTop ((tendsto_rpow_atTop hα).comp tendsto_natCast_atTop_atTop)

theorem tendsto_lterm {α z : ℝ} (hα : 0 ≤ α) (hz0 : 0 ≤ z) (hz1 : z < 1) :
    Tendsto (lterm α z) atTop (𝓝 0) :=
  squeeze_zero' (Eventually.of_forall (lterm_nonneg α hz0))
    ((eventually_ge_atTop 1).mono fun _ hk => lterm_le_pow hα hz0 hk) (tendsto_pow_atTop_nhds_zero_of_lt_one hz0 hz1)

theorem summable_zterm_succ {α : ℝ} (hα : 1 < α) : Summable (fun i : ℕ => zterm α (i + 1)) :=
  (summable_nat_add_iff 1).2 (Real.summable_one_div_nat_rpow.2 hα)

theorem sum_range_inv_sq_le {K : ℕ} (hK : 1 ≤ K) (n : ℕ) :
    ∑ i ∈ Finset.range n, (((i + K + 1 : ℕ) : ℝ) ^ 2)⁻¹ ≤ (K : ℝ)⁻¹ := by
  have h := sum_Ioc_inv_sq_le_sub (α := ℝ) (k := K) (n := K + n) (by omega) (by omega)
  rw [← Ico_add_one_add_one_eq_Ioc, Finset.sum_Ico_eq_sum_range, Nat.add_sub_add_right, Nat.add_sub_cancel_left] at h
  refine le_trans (le_of_eq (Finset.sum_congr rfl fun i _ => ?_)) (h.trans (sub_le_self _ (by positivity)))
  rw [show K + 1 + i = i + K + 1 by omega]

/-- `x² · x^{-α} = x^{2-α}` is antitone in `x` for `α ≥ 2` -/
theorem zterm_le_inv_sq {α : ℝ} (hα : 2 ≤ α) {K k : ℕ} (hK : 1 ≤ K) (hk : K ≤ k) :
    zterm α k ≤ ((K : ℝ) ^ 2 * zterm α K) * ((k : ℝ) ^ 2)⁻¹ := by
  have hKpos : (0 : ℝ) < K := by exact_mod_cast hK
  have hKk : (K : ℝ) ≤ k := by exact_mod_cast hk
  have hkpos : (0 : ℝ) < k := hKpos.trans_le hKk
  have e : ∀ x : ℝ, 0 < x → x ^ 2 * (1 / x ^ α) = x ^ (2 - α) := fun x hx => by
    rw [Real.rpow_sub hx, Real.rpow_two, mul_one_div]
  unfold zterm
  calc 1 / (k : ℝ) ^ α = (k : ℝ) ^ (2 - α) * ((k : ℝ) ^ 2)⁻¹ := by
        rw [← e _ hkpos, mul_comm, ← mul_assoc, inv_mul_cancel₀ (pow_ne_zero 2 hkpos.ne'), one_mul]
    _ ≤ (K : ℝ) ^ (2 - α) * ((k : ℝ) ^ 2)⁻¹ :=
        mul_le_mul_of_nonneg_right (Real.rpow_le_rpow_of_nonpos hKpos hKk (by linarith))
          (inv_nonneg.2 (sq_nonneg _))
    _ = _ := by rw [e _ hKpos]

theorem zeta_tail_le {α : ℝ} (hα : 2 ≤ α) {K : ℕ} (hK : 1 ≤ K) :
    ∑' i : ℕ, zterm α (i + K + 1) ≤ K * zterm α K := by
  have hKpos : (0 : ℝ) < K := by exact_mod_cast hK
  refine Real.tsum_le_of_sum_range_le (fun i => zterm_nonneg α _) fun n => ?_
  calc ∑ i ∈ range n, zterm α (i + K + 1)
      ≤ ∑ i ∈ range n, ((K : ℝ) ^ 2 * zterm α K) * (((i + K + 1 : ℕ) : ℝ) ^ 2)⁻¹ :=
        Finset.sum_le_sum fun i _ => zterm_le_inv_sq hα hK (by omega)
    _ = ((K : ℝ) ^ 2 * zterm α K) * ∑ i ∈ range n, (((i + K + 1 : ℕ) : ℝ) ^ 2)⁻¹ :=
        (Finset.mul_sum ..).symm
    _ ≤ ((K : ℝ) ^ 2 * zterm α K) * (K : ℝ)⁻¹ :=
        mul_le_mul_of_nonneg_left (sum_range_inv_sq_le hK n) (mul_nonneg (sq_nonneg _) (zterm_nonneg α K))
    _ = K * zterm α K := by rw [mul_right_comm, sq, mul_inv_cancel_right₀ hKpos.ne']

theorem zeta_tail_pos {α : ℝ} (hα : 1 < α) (K : ℕ) : 0 < ∑' i : ℕ, zterm α (i + K + 1) :=
  (summable_tail (summable_zterm_succ hα) K).tsum_pos (fun i => zterm_nonneg α _) 0 (zterm_pos α (by omega))

theorem summable_lterm_succ {α z : ℝ} (hα : 0 ≤ α) (hz0 : 0 ≤ z) (hz1 : z < 1) :
    Summable (fun i : ℕ => lterm α z (i + 1)) :=
  Summable.of_nonneg_of_le (fun i => lterm_nonneg α hz0 _)
    (fun i => lterm_le_pow hα hz0 (by omega))
    ((summable_nat_add_iff 1).2 (summable_geometric_of_lt_one hz0 hz1))

theorem lterm_tail_term_le {α z : ℝ} (hα : 0 ≤ α) (hz : 0 ≤ z) {K : ℕ} (hK : 1 ≤ K) (i : ℕ) :
    lterm α z (i + K + 1) ≤ lterm α z K * (z * z ^ i) := by
  unfold lterm
  have hKpos : (0 : ℝ) < K := by exact_mod_cast hK
  have h1 : (K : ℝ) ^ α ≤ ((i + K + 1 : ℕ) : ℝ) ^ α :=
    Real.rpow_le_rpow hKpos.le (by exact_mod_cast (by omega : K ≤ i + K + 1)) hα
  have hKα : 0 < (K : ℝ) ^ α := Real.rpow_pos_of_pos hKpos _
  have e : z ^ (i + K + 1) = z ^ K * (z * z ^ i) := by ring
  rw [e, div_mul_eq_mul_div]
  exact div_le_div_of_nonneg_left (mul_nonneg (pow_nonneg hz _) (mul_nonneg hz (pow_nonneg hz _))) hKα h1

theorem polylog_tail_le {α z : ℝ} (hα : 0 ≤ α) (hz0 : 0 ≤ z) (hz1 : z < 1) {K : ℕ} (hK : 1 ≤ K) :
    ∑' i : ℕ, lterm α z (i + K + 1) ≤ lterm α z K * (z / (1 - z)) := by
  have hs := summable_tail (summable_lterm_succ hα hz0 hz1) K
  have hg : HasSum (fun i : ℕ => lterm α z K * (z * z ^ i)) (lterm α z K * (z * (1 - z)⁻¹)) :=
    ((hasSum_geometric_of_lt_one hz0 hz1).mul_left z).mul_left _
  have := hasSum_le (fun i => lterm_tail_term_le hα hz0 hK i) hs.hasSum hg
  rwa [div_eq_mul_inv]

theorem polylog_tail_pos {α z : ℝ} (hα : 0 ≤ α) (hz0 : 0 < z) (hz1 : z < 1) (K : ℕ) :
    0 < ∑' i : ℕ, lterm α z (i + K + 1) :=
  (summable_tail (summable_lterm_succ hα hz0.le hz1) K).tsum_pos (fun i => lterm_nonneg α hz0.le _) 0
    (lterm_pos α hz0 (by omega))

/-- what the two tail bounds establish about a truncated normalisation constant `C = partialSum term K`
    against the full one `Z`: `c ≤ C < Z ≤ C + ε` for some `c > 0` -/
structure Truncates (term : ℕ → ℝ) (K : ℕ) (c ε : ℝ) : Prop where
  nonneg : ∀ k, 0 ≤ term k
  pos : 0 < c
  le : c ≤ partialSum term K
  lt : 0 < (∑' i : ℕ, term (i + 1)) - partialSum term K
  tail : (∑' i : ℕ, term (i + 1)) - partialSum term K ≤ ε

namespace Truncates
variable {term : ℕ → ℝ} {K : ℕ} {c ε : ℝ} (h : Truncates term K c ε)
include h

theorem ratio : 1 ≤ (∑' i : ℕ, term (i + 1)) / partialSum term K ∧
    (∑' i : ℕ, term (i + 1)) / partialSum term K ≤ 1 + ε / c := by
  have hC : 0 < partialSum term K := h.pos.trans_le h.le
  rw [one_le_div hC, div_le_iff₀ hC, add_mul, one_mul, ← sub_le_iff_le_add']
  -- `Z − C ≤ ε = (ε / c) · c ≤ (ε / c) · C`
  exact ⟨(sub_pos.1 h.lt).le, h.tail.trans <| (div_mul_cancel₀ ε h.pos.ne').symm.trans_le <|
    mul_le_mul_of_nonneg_left h.le (div_nonneg (h.lt.le.trans h.tail) h.pos.le)⟩

theorem close (k : ℕ) :
    term k / (∑' i : ℕ, term (i + 1)) ≤ term k / partialSum term K ∧
      term k / partialSum term K - term k / (∑' i : ℕ, term (i + 1))
        ≤ (ε / c) * (term k / (∑' i : ℕ, term (i + 1))) := by
  have hC : 0 < partialSum term K := h.pos.trans_le h.le
  have hZ : 0 < ∑' i : ℕ, term (i + 1) := hC.trans (sub_pos.1 h.lt)
  have e : term k / partialSum term K =
      ((∑' i : ℕ, term (i + 1)) / partialSum term K) * (term k / ∑' i : ℕ, term (i + 1)) := by
    rw [mul_comm, div_mul_div_cancel₀ hZ.ne']
  have hq := div_nonneg (h.nonneg k) hZ.le
  rw [e, ← sub_one_mul]
  exact ⟨le_mul_of_one_le_left hq h.ratio.1,
    mul_le_mul_of_nonneg_right (sub_le_iff_le_add'.2 h.ratio.2) hq⟩

theorem sum : 1 ≤ ∑' k : ℕ, term (k + 1) / partialSum term K ∧
    ∑' k : ℕ, term (k + 1) / partialSum term K ≤ 1 + ε / c := by
  rw [tsum_div_const]; exact h.ratio

end Truncates

theorem zterm_cast (s k : ℕ) : (((1 : ℚ) / ((k ^ s : ℕ) : ℚ) : ℚ) : ℝ) = zterm (s : ℝ) k := by
  unfold zterm
  rw [Real.rpow_natCast]
  push_cast
  rfl

theorem lterm_cast (s k : ℕ) (z : ℚ) :
    (((z ^ k : ℚ) / ((k ^ s : ℕ) : ℚ) : ℚ) : ℝ) = lterm (s : ℝ) (z : ℝ) k := by
  unfold lterm
  rw [Real.rpow_natCast]
  push_cast
  rfl

/-- the common shape of the two `while 1` loops: add `term k`, leave once it is below `tol` -/
def sumLoop (term : ℕ → ℚ) (tol : ℚ) : ℕ → ℕ → ℚ → Option (ℚ × ℕ)
  | 0, _, _ => none
  | fuel+1, k, l =>
    if term k < tol then some (l + term k, k) else sumLoop term tol fuel (k + 1) (l + term k)

/-- started at `k` with the partial sum up to `k - 1` and no earlier term below `tol`, the loop leaves at
    the stopping index with the partial sum up to it -/
theorem sumLoop_inv {term : ℕ → ℚ} {T : ℕ → ℝ} (hT : ∀ k, ((term k : ℚ) : ℝ) = T k) (tol : ℚ) :
    ∀ (fuel k : ℕ) (l l' : ℚ) (K : ℕ), 1 ≤ k →
    (∀ j, 1 ≤ j → j < k → ¬ T j < (tol : ℝ)) → (l : ℝ) = partialSum T (k - 1) →
    sumLoop term tol fuel k l = some (l', K) →
    StopsAt T (tol : ℝ) K ∧ (l' : ℝ) = partialSum T K := by
  intro fuel
  induction fuel with
  | zero => intro k l l' K _ _ _ h; cases h
  | succ fuel ih =>
    intro k l l' K hk hmin hl h
    have hsum : ((l + term k : ℚ) : ℝ) = partialSum T k := by
      obtain ⟨k', rfl⟩ : ∃ k', k = k' + 1 := ⟨k - 1, by omega⟩
      rw [partialSum_succ, Rat.cast_add, hT, hl, Nat.add_sub_cancel]
    have hlt : term k < tol ↔ T k < (tol : ℝ) := by rw [← hT]; exact Rat.cast_lt.symm
    rw [sumLoop] at h
    split at h
    · next hc =>
      cases h
      exact ⟨⟨hk, hlt.1 hc, hmin⟩, hsum⟩
    · next hc =>
      refine ih (k + 1) _ l' K (Nat.le_add_left 1 k) (fun j hj1 hjk => ?_) hsum h
      rcases Nat.lt_succ_iff_lt_or_eq.1 hjk with hj | rfl
      · exact hmin j hj1 hj
      · exact fun h => hc (hlt.2 h)

theorem zetaLoop_eq (s : ℕ) (tol : ℚ) (fuel k : ℕ) (l : ℚ) :
    zetaLoop s tol fuel k l = sumLoop (fun k => 1 / ((k ^ s : ℕ) : ℚ)) tol fuel k l := by
  induction fuel generalizing k l with
  | zero => rfl
  | succ fuel ih => rw [zetaLoop, sumLoop, ih]

/-- for `z ≥ 0` the terms are non-negative, so `abs(term)` is `term`; `zk` carries `z ^ k` -/
theorem polylogLoop_eq (s : ℕ) {z : ℚ} (hz : 0 ≤ z) (tol : ℚ) (fuel k : ℕ) (l : ℚ) :
    polylogLoop s z tol fuel k (z ^ k) l =
      sumLoop (fun k => z ^ k / ((k ^ s : ℕ) : ℚ)) tol fuel k l := by
  induction fuel generalizing k l with
  | zero => rfl
  | succ fuel ih =>
    have h0 : ¬ z ^ k / ((k ^ s : ℕ) : ℚ) < 0 := not_lt.2 (by positivity)
    rw [polylogLoop, sumLoop, if_neg h0, ← pow_succ, ih]

end Gcmpy.Distributions
