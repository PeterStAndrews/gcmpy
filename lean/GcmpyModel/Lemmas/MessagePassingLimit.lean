import Mathlib.Topology.Algebra.Ring.Real
import GcmpyModel.Lemmas.MessagePassing
/-!
Lemmas for `Properties/C17Limit.lean`: the message-passing sweep as a map on message tables.

Every number the sweep computes is obtained from `φ` and the entries it reads by `+`, `-`, `*`, `0` and `1`.  So a
relation that these five respect is respected by the sweep (`Respects.sweep`), whatever the network.  Three relations
are used: equality (`SameRead`: the sweep looks at its table only through `readH`), convergence along a filter
(`TendstoH`: the sweep is continuous in the entries) and the graph of a ring homomorphism (`respects_hom`: the real run
from rational data is the cast of the rational run).  The rest is about key lists: a sweep adds the edge keys and
nothing else (`keys_sweep`), so after the first sweep the key list no longer changes.
-/
namespace Gcmpy.MessagePassing
open Gcmpy Gcmpy.Graph Gcmpy.Automated Filter

/-! ### a fact about `List.foldl`: it carries a relation through every fold the model is written with -/

/-- `List.foldl_rel` for a family of runs: a relation between a family of runs of a left fold and a single run that
every step keeps holds at the end -/
theorem foldl_family {ι α β γ : Type} {r : (ι → β) → γ → Prop} {l : List α} {f : ι → β → α → β}
    {g : γ → α → γ}
    {b : ι → β} {c : γ} (h : r b c) (hstep : ∀ a ∈ l, ∀ b c, r b c → r (fun i => f i (b i) a) (g c a)) :
    r (fun i => l.foldl (f i) (b i)) (l.foldl g c) := by
  induction l generalizing b c with
  | nil => exact h
  | cons x xs ih =>
    exact ih (hstep x List.mem_cons_self b c h) fun a ha => hstep a (List.mem_cons_of_mem _ ha)

/-! ### what the ring operations respect, the sweep respects -/

section onReads
variable {ι R S : Type} [OfNat R 0] [OfNat S 0] {ρ : (ι → R) → S → Prop}

/-- the tables `Hn i` are related to `H` entry by entry -/
def OnReads (ρ : (ι → R) → S → Prop) (Hn : ι → HMap R) (H : HMap S) : Prop :=
  ∀ k, ρ (fun i => readH (Hn i) k) (readH H k)

theorem OnReads.set {Hn : ι → HMap R} {H : HMap S} (h : OnReads ρ Hn H) (k : Nat × Nat) {v : ι → R} {v' : S}
    (hv : ρ v v') : OnReads ρ (fun i => Dict.set (Hn i) k (v i)) (Dict.set H k v') := by
  intro k'
  simp only [readH_set]
  split
  · exact hv
  · exact h k'

end onReads

section respects
variable {ι R S : Type} [Add R] [Sub R] [Mul R] [OfNat R 0] [OfNat R 1] [Add S] [Sub S] [Mul S] [OfNat S 0] [OfNat S 1]

/-- a relation between families of numbers in `R` and numbers in `S` that is compatible with the operations the
model is written in -/
structure Respects (ρ : (ι → R) → S → Prop) : Prop where
  zero : ρ (fun _ => 0) 0
  one : ρ (fun _ => 1) 1
  add : ∀ {a a' b b'}, ρ a b → ρ a' b' → ρ (fun i => a i + a' i) (b + b')
  sub : ∀ {a a' b b'}, ρ a b → ρ a' b' → ρ (fun i => a i - a' i) (b - b')
  mul : ∀ {a a' b b'}, ρ a b → ρ a' b' → ρ (fun i => a i * a' i) (b * b')

variable {ρ : (ι → R) → S → Prop} (hρ : Respects ρ)
include hρ

theorem Respects.powN {a : ι → R} {b : S} (h : ρ a b) :
    ∀ n, ρ (fun i => Automated.powN (a i) n) (Automated.powN b n)
  | 0 => hρ.one
  | n + 1 => hρ.mul (Respects.powN h n) h

theorem Respects.us (g : Motif) {u : ι → Nat → R} {u' : Nat → S} (hu : ∀ v, ρ (fun i => u i v) (u' v))
    (root : Nat) :
    ρ (fun i => us g (u i) root) (us g u' root) :=
  foldl_family hρ.one fun v _ _ _ h => hρ.mul h (hu v)

theorem Respects.componentTerm (G : Motif) {p : ι → R} {p' : S} (hp : ρ p p') {u : ι → Nat → R}
    {u' : Nat → S}
    (hu : ∀ v, ρ (fun i => u i v) (u' v)) (root : Nat) (c combos : List Nat) :
    ρ (fun i => componentTerm G (p i) (u i) root c combos) (componentTerm G p' u' root c combos) := by
  have hq := hρ.sub hρ.one hp
  unfold Automated.componentTerm
  split
  · exact hρ.powN hq _
  · exact foldl_family hρ.zero fun n _ _ _ h => hρ.add h
      (hρ.mul (hρ.mul (hρ.mul (hρ.powN hp _) (hρ.powN hq n)) (hρ.powN hq _)) (hρ.us _ hu root))

/-- the automated equation respects `ρ`: it is a finite sum of finite products of `p`, `1 - p` and values of `u`.
No well-formedness of the motif is needed. -/
theorem Respects.automatedEquation (G : Motif) {p : ι → R} {p' : S} (hp : ρ p p') {u : ι → Nat → R}
    {u' : Nat → S}
    (hu : ∀ v, ρ (fun i => u i v) (u' v)) (root : Nat) :
    ρ (fun i => automatedEquation G (p i) (u i) root) (automatedEquation G p' u' root) :=
  foldl_family hρ.zero fun c _ _ _ h => hρ.add h (hρ.componentTerm G hp hu root c _)

theorem Respects.prodOver (net : Net) {Hn : ι → HMap R} {H : HMap S} (h : OnReads ρ Hn H) (j : Nat)
    (ls done : List Nat)
    {a : ι → R} {a' : S} (ha : ρ a a') :
    ρ (fun i => prodOver net (Hn i) j ls done (a i)) (prodOver net H j ls done a') := by
  fun_induction MessagePassing.prodOver net H j ls done a' generalizing a with
  | case1 => simpa only [MessagePassing.prodOver] using ha
  | case2 l ls done a' hlab ih => simpa only [MessagePassing.prodOver, hlab] using ih ha
  | case3 l ls done a' lab hlab hd ih => simpa only [MessagePassing.prodOver, hlab, hd, if_true] using ih ha
  | case4 l ls done a' lab hlab hd ih =>
    simpa only [MessagePassing.prodOver, hlab, hd, if_false] using ih (hρ.mul ha (h _))

theorem Respects.newMessage (net : Net) {φ : ι → R} {φ' : S} (hφ : ρ φ φ') {Hn : ι → HMap R} {H : HMap S}
    (h : OnReads ρ Hn H) (focal : Nat) (lab : Label) :
    ρ (fun i => newMessage net (φ i) (Hn i) focal lab) (newMessage net φ' H focal lab) :=
  hρ.automatedEquation _ hφ (fun v => hρ.prodOver net h v _ [] hρ.one) focal

theorem Respects.sweep (net : Net) {φ : ι → R} {φ' : S} (hφ : ρ φ φ') {Hn : ι → HMap R} {H : HMap S}
    (h : OnReads ρ Hn H) : OnReads ρ (fun i => sweep net (φ i) (Hn i)) (sweep net φ' H) := by
  simp only [sweep_eq_foldl]
  exact foldl_family (r := OnReads ρ) h fun x _ _ _ h => h.set _ (hρ.newMessage net hφ h x.1 x.2)

theorem Respects.sweeps (net : Net) {φ : ι → R} {φ' : S} (hφ : ρ φ φ') (n : Nat) {Hn : ι → HMap R}
    {H : HMap S}
    (h : OnReads ρ Hn H) : OnReads ρ (fun i => sweeps net (φ i) n (Hn i)) (sweeps net φ' n H) := by
  induction n generalizing Hn H with
  | zero => exact h
  | succ n ih => exact ih (hρ.sweep net hφ h)

theorem Respects.initH (net : Net) {half : ι → R} {half' : S} (hh : ρ half half') :
    OnReads ρ (fun i => initH net (half i)) (initH net half') :=
  foldl_family (r := OnReads ρ) (b := fun _ => []) (c := []) (fun _ => hρ.zero) fun _ _ _ _ h =>
    foldl_family (r := OnReads ρ) h fun _ _ _ _ h => h.set _ hh

theorem Respects.outerSum (net : Net) {Hn : ι → HMap R} {H : HMap S} (h : OnReads ρ Hn H) :
    ρ (fun i => outerSum net (Hn i)) (outerSum net H) :=
  foldl_family hρ.zero fun v _ _ _ ha => hρ.add ha (hρ.prodOver net h v _ [] hρ.one)

end respects

/-! ### the sweep reads its table only through `readH` -/

section generic
variable {R : Type} [Add R] [Sub R] [Mul R] [OfNat R 0] [OfNat R 1]

/-- the two tables read the same at every key -/
def SameRead (H' H : HMap R) : Prop := ∀ k, readH H' k = readH H k

set_option linter.unusedSectionVars false in
theorem SameRead.symm {H' H : HMap R} (h : SameRead H' H) : SameRead H H' := fun k => (h k).symm

theorem respects_eq : Respects fun (a : Unit → R) (b : R) => a () = b :=
  ⟨rfl, rfl, fun h h' => h ▸ h' ▸ rfl, fun h h' => h ▸ h' ▸ rfl, fun h h' => h ▸ h' ▸ rfl⟩

theorem sameRead_sweeps (net : Net) (φ : R) (n : Nat) {H' H : HMap R} (h : SameRead H' H) :
    SameRead (sweeps net φ n H') (sweeps net φ n H) :=
  respects_eq.sweeps net (φ := fun _ => φ) rfl n (Hn := fun _ => H') h

theorem sameRead_sweeps_of_fixed (net : Net) (φ : R) {H : HMap R} (hfix : SameRead (sweep net φ H) H) :
    ∀ n, SameRead (sweeps net φ n H) H
  | 0 => fun _ => rfl
  | n + 1 => fun k => (sameRead_sweeps net φ n hfix k).trans (sameRead_sweeps_of_fixed net φ hfix n k)

/-! ### key lists: a sweep adds the edge keys and nothing else -/

/-- the table has an entry for every `(end point, motif id)` of a labelled network edge -/
def EdgeKeysIn (net : Net) (H : HMap R) : Prop := ∀ k, EdgeKey net k → k ∈ Dict.keys H

theorem keys_sweep (net : Net) (φ : R) (H : HMap R) :
    Dict.keys (sweep net φ H)
      = ((updates net).map fun x => (x.1, x.2.id)).foldl Dict.addKey (Dict.keys H) := by
  rw [sweep_eq_foldl, List.foldl_map]
  exact (List.foldl_hom Dict.keys fun H x => (Dict.keys_set H (x.1, x.2.id) (newMessage net φ H x.1 x.2)).symm).symm

theorem edgeKeysIn_sweep (net : Net) (φ : R) (H : HMap R) : EdgeKeysIn net (sweep net φ H) :=
  fun _ hk => keys_sweep net φ H ▸ (Dict.mem_foldl_addKey ..).2 (.inr (edgeKey_iff.1 hk))

theorem keys_sweep_of_edgeKeys (net : Net) (φ : R) {H : HMap R} (h : EdgeKeysIn net H) :
    Dict.keys (sweep net φ H) = Dict.keys H :=
  (keys_sweep net φ H).trans (Dict.foldl_addKey_of_subset _ _ fun k hk => h k (edgeKey_iff.2 hk))

theorem keys_sweeps (net : Net) (φ : R) {H : HMap R} (h : EdgeKeysIn net H) (n : Nat) :
    Dict.keys (sweeps net φ n H) = Dict.keys H := by
  induction n generalizing H with
  | zero => rfl
  | succ n ih => exact (ih (edgeKeysIn_sweep net φ H)).trans (keys_sweep_of_edgeKeys net φ h)

theorem keys_sweep_nodup (net : Net) (φ : R) {H : HMap R} (h : (Dict.keys H).Nodup) :
    (Dict.keys (sweep net φ H)).Nodup :=
  keys_sweep net φ H ▸ Dict.nodup_foldl_addKey h

end generic

section
variable {R : Type}

theorem keys_initH (net : Net) (half : R) :
    Dict.keys (initH net half)
      = (net.edges.flatMap fun e => e.2.2.verts.map fun v => (v, e.2.2.id)).foldl Dict.addKey [] := by
  simp only [initH, List.foldl_flatMap, List.foldl_map]
  exact (List.foldl_hom Dict.keys fun H (e : Nat × Nat × Label) =>
    List.foldl_hom Dict.keys fun H v => (Dict.keys_set H (v, e.2.2.id) half).symm).symm

theorem keys_initH_nodup (net : Net) (half : R) : (Dict.keys (initH net half)).Nodup :=
  keys_initH net half ▸ Dict.nodup_foldl_addKey List.nodup_nil

theorem mem_keys_initH (net : Net) (half : R) {e : Nat × Nat × Label} (he : e ∈ net.edges) {v : Nat}
    (hv : v ∈ e.2.2.verts) : (v, e.2.2.id) ∈ Dict.keys (initH net half) :=
  keys_initH net half ▸
    (Dict.mem_foldl_addKey ..).2 (.inr (List.mem_flatMap.2 ⟨e, he, List.mem_map.2 ⟨v, hv, rfl⟩⟩))

/-- both end points of every labelled edge are listed as members of its motif (follows from `Consistent`:
`ends_in_verts`) -/
def EndsInVerts (net : Net) : Prop := ∀ e ∈ net.edges, e.1 ∈ e.2.2.verts ∧ e.2.1 ∈ e.2.2.verts

theorem edgeKeysIn_initH {net : Net} (hv : EndsInVerts net) (half : R) : EdgeKeysIn net (initH net half) := by
  rintro k ⟨e, he, rfl | rfl⟩
  · exact mem_keys_initH net half he (hv e he).1
  · exact mem_keys_initH net half he (hv e he).2

/-! ### the table with the keys of one table and prescribed entries -/

/-- the table with the keys of `H` and the entries `L` -/
def limitTable (H : HMap R) (L : Nat × Nat → R) : HMap R := H.map fun p => (p.1, L p.1)

theorem keys_limitTable (H : HMap R) (L : Nat × Nat → R) : Dict.keys (limitTable H L) = Dict.keys H :=
  Dict.keys_map_val H fun k _ => L k

variable [OfNat R 0]

theorem table_ext {H' H : HMap R} (hk : Dict.keys H' = Dict.keys H) (hn : (Dict.keys H).Nodup)
    (h : ∀ k ∈ Dict.keys H, readH H' k = readH H k) : H' = H := by
  refine Dict.ext_of_keys_eq hk hn fun k hk' => ?_
  rw [Dict.get_getD_of_mem_keys 0 (hk ▸ hk'), Dict.get_getD_of_mem_keys 0 hk']
  exact congrArg some (h k hk')

theorem readH_limitTable_of_mem (H : HMap R) (L : Nat × Nat → R) {k : Nat × Nat} (hk : k ∈ Dict.keys H) :
    readH (limitTable H L) k = L k := by
  obtain ⟨v, hv⟩ := Option.isSome_iff_exists.1 ((Dict.get_isSome_iff_mem_keys H k).2 hk)
  rw [readH, limitTable, Dict.get_map_val H (fun k _ => L k), hv]
  rfl

end

/-! ### over `ℝ`: every step is continuous in the entries -/

section real
variable {ι : Type} {F : Filter ι}

/-- entry-wise convergence of a family of message tables -/
def TendstoH (F : Filter ι) (Hn : ι → HMap ℝ) (H : HMap ℝ) : Prop :=
  ∀ k, Tendsto (fun n => readH (Hn n) k) F (nhds (readH H k))

theorem tendstoH_const (H : HMap ℝ) : TendstoH F (fun _ => H) H := fun _ => tendsto_const_nhds

theorem tendstoH_congr_right {Hn : ι → HMap ℝ} {H H' : HMap ℝ} (h : TendstoH F Hn H) (hs : SameRead H H') :
    TendstoH F Hn H' := fun k => hs k ▸ h k

theorem respects_tendsto : Respects fun (a : ι → ℝ) (b : ℝ) => Tendsto a F (nhds b) :=
  ⟨tendsto_const_nhds, tendsto_const_nhds, Tendsto.add, Tendsto.sub, Tendsto.mul⟩

theorem tendstoH_sweep (net : Net) (φ : ℝ) {Hn : ι → HMap ℝ} {H : HMap ℝ} (h : TendstoH F Hn H) :
    TendstoH F (fun n => sweep net φ (Hn n)) (sweep net φ H) :=
  respects_tendsto.sweep net tendsto_const_nhds h

theorem tendstoH_sweeps (net : Net) (φ : ℝ) (m : Nat) {Hn : ι → HMap ℝ} {H : HMap ℝ} (h : TendstoH F Hn H) :
    TendstoH F (fun n => sweeps net φ m (Hn n)) (sweeps net φ m H) :=
  respects_tendsto.sweeps net tendsto_const_nhds m h

theorem tendsto_outerSum (net : Net) {Hn : ι → HMap ℝ} {H : HMap ℝ} (h : TendstoH F Hn H) :
    Tendsto (fun n => outerSum net (Hn n)) F (nhds (outerSum net H)) :=
  respects_tendsto.outerSum net h

end real

/-! ### transport along a ring homomorphism (`ℚ → ℝ`): the real run is the image of the rational run -/

section hom
variable {R S : Type} [Ring R] [Ring S] (f : R →+* S)

/-- entry-wise image of a table -/
def mapH (H : HMap R) : HMap S := H.map fun p => (p.1, f p.2)

theorem keys_mapH (H : HMap R) : Dict.keys (mapH f H) = Dict.keys H :=
  Dict.keys_map_val H fun _ => f

theorem readH_mapH (H : HMap R) (k : Nat × Nat) : readH (mapH f H) k = f (readH H k) := by
  unfold readH
  rw [mapH, Dict.get_map_val H fun _ => f]
  cases Dict.get H k with
  | none => exact (map_zero f).symm
  | some v => rfl

theorem respects_hom : Respects fun (a : Unit → R) (b : S) => f (a ()) = b :=
  ⟨map_zero f, map_one f, fun h h' => h ▸ h' ▸ map_add f _ _, fun h h' => h ▸ h' ▸ map_sub f _ _,
   fun h h' => h ▸ h' ▸ map_mul f _ _⟩

theorem readH_sweeps_map (net : Net) (φ : R) (n : Nat) {H : HMap R} {H' : HMap S}
    (h : ∀ k, f (readH H k) = readH H' k) (k : Nat × Nat) :
    f (readH (sweeps net φ n H) k) = readH (sweeps net (f φ) n H') k :=
  (respects_hom f).sweeps net (φ := fun _ => φ) rfl n (Hn := fun _ => H) h k

theorem readH_initH_map (net : Net) (half : R) (k : Nat × Nat) :
    f (readH (initH net half) k) = readH (initH net (f half)) k :=
  (respects_hom f).initH net (half := fun _ => half) rfl k

theorem outerSum_map (net : Net) {H : HMap R} {H' : HMap S} (h : ∀ k, f (readH H k) = readH H' k) :
    f (outerSum net H) = outerSum net H' :=
  (respects_hom f).outerSum net (Hn := fun _ => H) h

end hom

end Gcmpy.MessagePassing
