import GcmpyModel.Model.MPCC
import GcmpyModel.Lemmas.NormE
/-!
What the two clique covers (`MPCC`, C10, and `EECC`, C09) share: `hasEdge`, the vertex pairs of a vertex list, cliques
of an edge list, the removal of a clique's pairs from the working graph (`removePairs`), edge-disjoint lists of
cliques (`EdgeDisjoint`).
`pairs c` is read as the list of the two-element sub-lists of `c` (`mem_pairs_iff`), and two distinct members of `c`
form such a sub-list in one order or the other (`HasPair.sublist`); the facts about pairs come from these two.
Core Lean only.
-/

namespace Gcmpy.Graph

theorem hasEdge_iff {es : List Edge} {a b : Nat} : hasEdge es a b = true ↔ (a, b) ∈ es ∨ (b, a) ∈ es := by
  simp only [hasEdge, List.any_eq_true, decide_eq_true_eq, Prod.exists]
  constructor
  · rintro ⟨x, y, hm, ⟨rfl, rfl⟩ | ⟨rfl, rfl⟩⟩
    · exact Or.inl hm
    · exact Or.inr hm
  · rintro (h | h)
    · exact ⟨a, b, h, Or.inl ⟨rfl, rfl⟩⟩
    · exact ⟨b, a, h, Or.inr ⟨rfl, rfl⟩⟩

theorem hasEdge_comm (es : List Edge) (a b : Nat) : hasEdge es a b = hasEdge es b a := by
  rw [Bool.eq_iff_iff, hasEdge_iff, hasEdge_iff, or_comm]

end Gcmpy.Graph

namespace Gcmpy.MPCC
open Gcmpy Gcmpy.Graph Gcmpy.Generate

/-- simple loop-free graph as an edge list: every undirected edge listed once -/
def Simple (es : List Edge) : Prop := es.Nodup ∧ (∀ e ∈ es, e.1 ≠ e.2) ∧ ∀ e ∈ es, (e.2, e.1) ∉ es

/-- `c` is a clique of the graph: distinct vertices, every pair an edge -/
def IsClique (es : List Edge) (c : List Nat) : Prop :=
  c.Nodup ∧ ∀ a ∈ c, ∀ b ∈ c, a ≠ b → hasEdge es a b = true

/-- the undirected pair {a,b} is one of the pairs of `c` -/
def HasPair (c : List Nat) (a b : Nat) : Prop := a ∈ c ∧ b ∈ c ∧ a ≠ b

instance (c : List Nat) (a b : Nat) : Decidable (HasPair c a b) := by unfold HasPair; infer_instance
instance (es : List Edge) : Decidable (Simple es) := by unfold Simple; infer_instance

theorem HasPair.symm {c : List Nat} {a b : Nat} (h : HasPair c a b) : HasPair c b a :=
  ⟨h.2.1, h.1, h.2.2.symm⟩

theorem hasPair_comm {c : List Nat} {a b : Nat} : HasPair c a b ↔ HasPair c b a := ⟨.symm, .symm⟩

theorem hasPair_perm {c d : List Nat} (h : c.Perm d) (a b : Nat) : HasPair c a b ↔ HasPair d a b := by
  simp only [HasPair, h.mem_iff]

theorem mem_pairs_iff {c : List Nat} {a b : Nat} : (a, b) ∈ pairs c ↔ [a, b].Sublist c := by
  induction c with
  | nil => simp [pairs]
  | cons x xs ih =>
    simp only [pairs, List.mem_append, List.mem_map, Prod.mk.injEq, ih, List.sublist_cons_iff (l := [a, b]),
      List.cons.injEq]
    constructor
    · rintro (⟨y, hy, rfl, rfl⟩ | h)
      · exact Or.inr ⟨[y], ⟨rfl, rfl⟩, List.singleton_sublist.2 hy⟩
      · exact Or.inl h
    · rintro (h | ⟨r, ⟨rfl, rfl⟩, h⟩)
      · exact Or.inr h
      · exact Or.inl ⟨b, List.singleton_sublist.1 h, rfl, rfl⟩

theorem HasPair.sublist {c : List Nat} {a b : Nat} (h : HasPair c a b) : [a, b].Sublist c ∨ [b, a].Sublist c := by
  obtain ⟨ha, hb, hab⟩ := h
  obtain ⟨s, t, rfl⟩ := List.append_of_mem ha
  rcases List.mem_append.1 hb with hb | hb
  · exact Or.inr ((List.singleton_sublist.2 hb).append (List.singleton_sublist.2 List.mem_cons_self))
  · exact Or.inl (((List.singleton_sublist.2 ((List.mem_cons.1 hb).resolve_left hab.symm)).cons_cons a).trans
      (List.sublist_append_right s _))

theorem hasPair_of_sublist {c : List Nat} {a b : Nat} (h : [a, b].Sublist c) (hab : a ≠ b) : HasPair c a b :=
  ⟨h.subset (by simp), h.subset (by simp), hab⟩

theorem HasPair.mem_pairs {c : List Nat} {a b : Nat} (h : HasPair c a b) : (a, b) ∈ pairs c ∨ (b, a) ∈ pairs c :=
  h.sublist.imp mem_pairs_iff.2 mem_pairs_iff.2

theorem hasPair_of_mem_pairs {c : List Nat} (hc : c.Nodup) {a b : Nat} (h : (a, b) ∈ pairs c) : HasPair c a b :=
  hasPair_of_sublist (mem_pairs_iff.1 h) (hc.forall_sublist (mem_pairs_iff.1 h))

theorem HasPair.two_le_length {c : List Nat} {a b : Nat} (h : HasPair c a b) : 2 ≤ c.length :=
  h.sublist.elim (·.length_le) (·.length_le)

theorem HasPair.eq_pair {c : List Nat} {a b : Nat} (h : HasPair c a b) (hl : c.length ≤ 2) :
    c = [a, b] ∨ c = [b, a] :=
  h.sublist.imp (fun s => (s.eq_of_length_le hl).symm) (fun s => (s.eq_of_length_le hl).symm)

theorem exists_hasPair {c : List Nat} (hc : c.Nodup) (hl : 2 ≤ c.length) : ∃ a b, HasPair c a b :=
  match c, hc, hl with
  | a :: b :: _, hc, _ => ⟨a, b, hasPair_of_sublist (by simp) (hc.forall_sublist (by simp))⟩

theorem mem_map_normE_pairs {c : List Nat} {a b : Nat} (hab : a ≠ b) :
    normE (a, b) ∈ (pairs c).map normE ↔ HasPair c a b := by
  rw [List.mem_map]
  constructor
  · rintro ⟨⟨x, y⟩, hp, hn⟩
    have hs := (mem_pairs_iff.1 hp).subset
    rcases normE_eq_iff.1 hn with ⟨rfl, rfl⟩ | ⟨rfl, rfl⟩
    · exact ⟨hs (by simp), hs (by simp), hab⟩
    · exact ⟨hs (by simp), hs (by simp), hab⟩
  · intro h
    rcases h.mem_pairs with h | h
    · exact ⟨_, h, rfl⟩
    · exact ⟨_, h, normE_comm b a⟩

theorem isClique_iff_forall_hasPair {g : List Edge} {c : List Nat} :
    IsClique g c ↔ c.Nodup ∧ ∀ a b, HasPair c a b → hasEdge g a b = true :=
  and_congr_right fun _ =>
    ⟨fun h a b hp => h a hp.1 b hp.2.1 hp.2.2, fun h a ha b hb hab => h a b ⟨ha, hb, hab⟩⟩

/-- `allPairsPresent` is also the body of `EECC.isClique` and of the filter of `allCliques` -/
theorem hasEdge_of_allPairsPresent {g : List Edge} {c : List Nat} (h : allPairsPresent g c = true) {a b : Nat}
    (hp : HasPair c a b) : hasEdge g a b = true := by
  rw [allPairsPresent, List.all_eq_true] at h
  rcases hp.mem_pairs with h' | h'
  · exact h _ h'
  · exact (hasEdge_comm g a b).trans (h _ h')

theorem allPairsPresent_iff (g : List Edge) {c : List Nat} (hc : c.Nodup) :
    allPairsPresent g c = true ↔ ∀ a b, HasPair c a b → hasEdge g a b = true :=
  ⟨fun h _ _ => hasEdge_of_allPairsPresent h,
   fun h => List.all_eq_true.2 fun _ hp => h _ _ (hasPair_of_mem_pairs hc hp)⟩

theorem allPairsPresent_iff_isClique {g : List Edge} {c : List Nat} (hc : c.Nodup) :
    allPairsPresent g c = true ↔ IsClique g c :=
  (allPairsPresent_iff g hc).trans (isClique_iff_forall_hasPair.trans (and_iff_right hc)).symm

theorem isClique_pair {g : List Edge} {a b : Nat} (hab : a ≠ b) (h : hasEdge g a b = true) : IsClique g [a, b] :=
  (allPairsPresent_iff_isClique (by simp [hab])).1 (by simpa [allPairsPresent, pairs] using h)

theorem removePairs_sublist (g : List Edge) (c : List Nat) : (removePairs g c).Sublist g :=
  List.filter_sublist

theorem mem_removePairs {g : List Edge} {c : List Nat} {a b : Nat} (hab : a ≠ b) :
    (a, b) ∈ removePairs g c ↔ (a, b) ∈ g ∧ ¬ HasPair c a b := by
  simp only [removePairs, List.mem_filter, List.any_eq_true, decide_eq_true_eq, ← List.mem_map,
    mem_map_normE_pairs hab]

/-- `remove_edges_from(combinations(c, 2))`: exactly the pairs of `c` disappear (missing ones are ignored) -/
theorem hasEdge_removePairs {g : List Edge} {c : List Nat} {a b : Nat} (hab : a ≠ b) :
    hasEdge (removePairs g c) a b = true ↔ hasEdge g a b = true ∧ ¬ HasPair c a b := by
  rw [hasEdge_iff, hasEdge_iff, mem_removePairs hab, mem_removePairs hab.symm, hasPair_comm (a := b),
    or_and_right]

/-- no two members of the list share a pair (the members of a cover: no edge is covered twice) -/
abbrev EdgeDisjoint (cov : List (List Nat)) : Prop :=
  cov.Pairwise (fun c d => ∀ a b, HasPair c a b → ¬ HasPair d a b)

theorem EdgeDisjoint.index_unique {cov : List (List Nat)} (hd : EdgeDisjoint cov) {i j : Nat} {c c' : List Nat}
    (hi : cov[i]? = some c) (hj : cov[j]? = some c') {a b : Nat} (hc : HasPair c a b) (hc' : HasPair c' a b) :
    i = j := by
  obtain ⟨hi', rfl⟩ := List.getElem?_eq_some_iff.1 hi
  obtain ⟨hj', rfl⟩ := List.getElem?_eq_some_iff.1 hj
  rcases Nat.lt_trichotomy i j with h | h | h
  · exact absurd hc' (List.pairwise_iff_getElem.1 hd i j hi' hj' h a b hc)
  · exact h
  · exact absurd hc (List.pairwise_iff_getElem.1 hd j i hj' hi' h a b hc')

end Gcmpy.MPCC
