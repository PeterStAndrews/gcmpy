import Mathlib.Data.Nat.Choose.Sum
import Mathlib.Algebra.BigOperators.Group.Finset.Powerset
import Mathlib.Tactic.Ring
import GcmpyModel.Lemmas.LabelledGraphs
/-
Cayley's formula for the project's counter of connected graphs: `ccN n (n-1) = n^(n-2)`.

Route: rooted forests, counted by edge sets.  For `R ⊆ S`, `fc S R` is the number of edge sets `A ⊆ pairs S` with
`|S| - |R|` edges in which every vertex of `S` reaches some vertex of `R` (such an `A` is a spanning forest whose
components contain exactly one vertex of `R` each — but acyclicity is never needed explicitly: all that is used is the
lower bound `|S| ≤ |A| + |R|`, `card_ge_of_rconn` in `Lemmas/LabelledGraphs.lean`, where `del`, `star`, `nbrs` live).

* `fc_rec`     deleting a root `r ∈ R` and classifying by the set `J` of its neighbours:
               `fc S R = ∑ J ⊆ S \ R, fc (S \ {r}) (R \ {r} ∪ J)`;
* `fc_formula` `fc S R * |S| = |R| * |S|^(|S| - |R|)`, by induction on `|S|` with the binomial theorem;
* `ccN_cayley` `ccN n (n-1) = n^(n-2)` (`R = {r}`: every vertex reaches `r` iff the graph is connected).
-/

open Finset BigOperators

namespace Gcmpy.Cayley
open Gcmpy.Perc Gcmpy.HP

variable {V : Type} [LinearOrder V]

open Classical in
/-- number of edge sets on `S` with `|S| - |R|` edges in which every vertex reaches `R`
(= spanning forests rooted at `R`) -/
noncomputable def fc (S R : Finset V) : ℕ :=
  (((pairs S).powersetCard (S.card - R.card)).filter (RConn S R)).card

/-- in the extremal case no root is adjacent to another root -/
theorem nbrs_subset_sdiff_of_card {S R : Finset V} {A : Finset (V × V)} {r : V} (hr : r ∈ R) (hRS : R ⊆ S)
    (hA : A ⊆ pairs S) (h : RConn S R A) (hc : A.card = S.card - R.card) : nbrs A r ⊆ S \ R := by
  have h1 := card_add_nbrs_le hr hRS hA
    (card_ge_of_rconn (erase_union_subset_erase hr hRS (nbrs_sdiff_subset hA R r)) (del_subset_pairs hA r)
      (rconn_del h))
  have hle : R.card ≤ S.card := card_le_card hRS
  have h5 : (nbrs A r).card ≤ (nbrs A r \ R).card := by omega
  rw [← eq_of_subset_of_card_le sdiff_subset h5]
  exact nbrs_sdiff_subset hA R r

theorem starOf_subset_pairs {S : Finset V} {r : V} (hr : r ∈ S) {J : Finset V} (hJ : J ⊆ S) (hrJ : r ∉ J) :
    starOf r J ⊆ pairs S := by
  intro e he
  obtain ⟨hlt, ⟨h1, h2⟩ | ⟨h1, h2⟩⟩ := (mem_starOf hrJ).1 he
  · exact mem_pairs.2 ⟨h1 ▸ hr, hJ h2, hlt⟩
  · exact mem_pairs.2 ⟨hJ h2, h1 ▸ hr, hlt⟩

theorem ne_of_mem_pairs_erase {S : Finset V} {A' : Finset (V × V)} {r : V} (hA' : A' ⊆ pairs (S.erase r)) :
    ∀ e ∈ A', e.1 ≠ r ∧ e.2 ≠ r := by
  intro e he
  have := mem_pairs.1 (hA' he)
  exact ⟨(mem_erase.1 this.1).1, (mem_erase.1 this.2.1).1⟩

theorem starOf_touch {r : V} {J : Finset V} {e : V × V} (he : e ∈ starOf r J) : e.1 = r ∨ e.2 = r := by
  obtain ⟨j, _, rfl⟩ := mem_image.1 he
  unfold mkE
  split_ifs
  exacts [Or.inl rfl, Or.inr rfl]

theorem del_union_starOf {A' : Finset (V × V)} {r : V} {J : Finset V} (hav : ∀ e ∈ A', e.1 ≠ r ∧ e.2 ≠ r) :
    del (A' ∪ starOf r J) r = A' := by
  ext e
  simp only [mem_del, mem_union]
  constructor
  · rintro ⟨h | h, h1, h2⟩
    · exact h
    · rcases starOf_touch h with h' | h'
      · exact absurd h' h1
      · exact absurd h' h2
  · intro h; exact ⟨Or.inl h, hav e h⟩

theorem disjoint_starOf {A' : Finset (V × V)} {r : V} {J : Finset V} (hav : ∀ e ∈ A', e.1 ≠ r ∧ e.2 ≠ r) :
    Disjoint A' (starOf r J) := by
  rw [Finset.disjoint_left]
  intro e h1 h2
  rcases starOf_touch h2 with h' | h'
  · exact (hav e h1).1 h'
  · exact (hav e h1).2 h'

theorem adj_starOf {r v : V} {J : Finset V} (hv : v ∈ J) (A' : Finset (V × V)) : Adj (A' ∪ starOf r J) r v := by
  have hm : mkE r v ∈ starOf r J := mem_image_of_mem _ hv
  unfold mkE at hm
  split_ifs at hm
  exacts [Or.inl (mem_union_right _ hm), Or.inr (mem_union_right _ hm)]

theorem nbrs_union_starOf {A' : Finset (V × V)} {r : V} {J : Finset V} (hav : ∀ e ∈ A', e.1 ≠ r ∧ e.2 ≠ r)
    (hrJ : r ∉ J) : nbrs (A' ∪ starOf r J) r = J := by
  ext v
  rw [mem_nbrs]
  constructor
  · rintro (h | h) <;> rcases mem_union.1 h with h | h
    · exact absurd rfl (hav _ h).1
    · rcases ((mem_starOf hrJ).1 h).2 with ⟨_, hv⟩ | ⟨hv, hr⟩
      exacts [hv, absurd (hv ▸ hr) hrJ]
    · exact absurd rfl (hav _ h).2
    · rcases ((mem_starOf hrJ).1 h).2 with ⟨hv, hr⟩ | ⟨_, hv⟩
      exacts [absurd (hv ▸ hr) hrJ, hv]
  · exact fun hv => adj_starOf hv A'

theorem rconn_add {S R J : Finset V} {A' : Finset (V × V)} {r : V} (hr : r ∈ R)
    (h : RConn (S.erase r) (R.erase r ∪ J) A') : RConn S R (A' ∪ starOf r J) := by
  intro v hv
  by_cases hvr : v = r
  · subst hvr; exact ⟨v, hr, Relation.ReflTransGen.refl⟩
  obtain ⟨x, hx, hvx⟩ := h v (mem_erase.2 ⟨hvr, hv⟩)
  have hvx' : Reach (A' ∪ starOf r J) v x := hvx.mono subset_union_left
  rcases mem_union.1 hx with hx | hx
  · exact ⟨x, (mem_erase.1 hx).2, hvx'⟩
  · exact ⟨r, hr, hvx'.tail (adj_starOf hx A').symm⟩

theorem card_erase_union {S R J : Finset V} {r : V} (hr : r ∈ R) (hJ : J ⊆ S \ R) :
    (R.erase r ∪ J).card = R.card - 1 + J.card := by
  rw [card_union_of_disjoint (disjoint_sdiff.mono (erase_subset r R) hJ), card_erase_of_mem hr]

/-- **the recursion**: delete the root `r`, classify by the set `J` of its neighbours -/
theorem fc_rec {S R : Finset V} {r : V} (hr : r ∈ R) (hRS : R ⊆ S) :
    fc S R = ∑ J ∈ (S \ R).powerset, fc (S.erase r) (R.erase r ∪ J) := by
  classical
  have hrS := hRS hr
  have hpos : 0 < R.card := card_pos.2 ⟨r, hr⟩
  have hle : R.card ≤ S.card := card_le_card hRS
  unfold fc
  rw [card_eq_sum_card_fiberwise (f := fun A => nbrs A r) (t := (S \ R).powerset) (by
    intro A hA
    simp only [mem_coe, mem_filter, mem_powersetCard] at hA
    simp only [mem_coe, mem_powerset]
    exact nbrs_subset_sdiff_of_card hr hRS hA.1.1 hA.2 hA.1.2)]
  apply sum_congr rfl
  intro J hJ
  rw [mem_powerset] at hJ
  have hrJ : r ∉ J := fun h => (mem_sdiff.1 (hJ h)).2 hr
  have hJS : J ⊆ S := fun x hx => (mem_sdiff.1 (hJ hx)).1
  have hcr := card_erase_union hr hJ
  have hrs : (R.erase r ∪ J).card ≤ (S.erase r).card := card_le_card (erase_union_subset_erase hr hRS hJ)
  rw [card_erase_of_mem hrS] at hrs
  refine card_nbij' (fun A => del A r) (fun A' => A' ∪ starOf r J) ?_ ?_ ?_ ?_
  · intro A hA
    simp only [mem_coe, mem_filter, mem_powersetCard] at hA ⊢
    obtain ⟨⟨⟨hA1, hA2⟩, hA3⟩, hA4⟩ := hA
    have h4 := card_del_add A r
    rw [card_star hA1, hA4] at h4
    refine ⟨⟨del_subset_pairs hA1 r, ?_⟩, ?_⟩
    · rw [card_erase_of_mem hrS]; omega
    · have := rconn_del (r := r) hA3
      rw [hA4, sdiff_eq_self_of_disjoint] at this
      · exact this
      · rw [Finset.disjoint_left]; intro x hx; exact (mem_sdiff.1 (hJ hx)).2
  · intro A' hA'
    simp only [mem_coe, mem_filter, mem_powersetCard] at hA' ⊢
    obtain ⟨⟨hA1, hA2⟩, hA3⟩ := hA'
    have hav := ne_of_mem_pairs_erase hA1
    rw [card_erase_of_mem hrS] at hA2
    refine ⟨⟨⟨union_subset (hA1.trans (pairs_mono (erase_subset _ _))) (starOf_subset_pairs hrS hJS hrJ), ?_⟩,
      rconn_add hr hA3⟩, nbrs_union_starOf hav hrJ⟩
    rw [card_union_of_disjoint (disjoint_starOf hav), card_starOf]; omega
  · intro A hA
    simp only [mem_coe, mem_filter, mem_powersetCard] at hA
    obtain ⟨⟨⟨hA1, hA2⟩, hA3⟩, hA4⟩ := hA
    show del A r ∪ starOf r J = A
    rw [← hA4, ← star_eq_starOf hA1, del_union_star]
  · intro A' hA'
    simp only [mem_coe, mem_filter, mem_powersetCard] at hA'
    exact del_union_starOf (ne_of_mem_pairs_erase hA'.1.1)

/-- if every vertex is a root, the only forest is the empty one -/
theorem fc_self (S : Finset V) : fc S S = 1 := by
  classical
  unfold fc
  rw [Nat.sub_self, powersetCard_zero, filter_singleton,
    if_pos (show RConn S S ∅ from fun v hv => ⟨v, hv, Relation.ReflTransGen.refl⟩), card_singleton]

theorem fc_no_roots {S : Finset V} (hS : S.Nonempty) : fc S ∅ = 0 := by
  classical
  unfold fc
  rw [card_eq_zero, filter_eq_empty_iff]
  intro A _ h
  obtain ⟨v, hv⟩ := hS
  obtain ⟨r, hr, _⟩ := h v hv
  exact absurd hr (notMem_empty _)

theorem sum_choose_pow (m x : ℕ) : ∑ j ∈ range (m + 1), m.choose j * x ^ (m - j) = (x + 1) ^ m := by
  rw [add_comm x 1, add_pow]
  apply sum_congr rfl
  intro j _
  rw [one_pow, one_mul, Nat.cast_id, mul_comm]

theorem sum_choose_mul_pow (m x : ℕ) :
    ∑ j ∈ range (m + 1), m.choose j * (j * x ^ (m - j)) = m * (x + 1) ^ (m - 1) := by
  cases m with
  | zero => simp
  | succ m =>
    rw [sum_range_succ', Nat.add_sub_cancel, ← sum_choose_pow, mul_sum]
    simp only [zero_mul, mul_zero, add_zero]
    apply sum_congr rfl
    intro j _
    rw [Nat.add_sub_add_right, ← mul_assoc, ← mul_assoc, Nat.add_one_mul_choose_eq]

/-- multiplied by `x + 1`, so that no `m - 1` appears -/
theorem sum_choose_add_mul_pow (m c x : ℕ) :
    (x + 1) * ∑ j ∈ range (m + 1), m.choose j * ((c + j) * x ^ (m - j)) = (c * (x + 1) + m) * (x + 1) ^ m := by
  have h : ∑ j ∈ range (m + 1), m.choose j * ((c + j) * x ^ (m - j))
      = c * (x + 1) ^ m + m * (x + 1) ^ (m - 1) := by
    rw [← sum_choose_pow, ← sum_choose_mul_pow, mul_sum, ← sum_add_distrib]
    apply sum_congr rfl
    intro j _
    ring
  rw [h]
  cases m with
  | zero => simp [Nat.mul_comm]
  | succ m => rw [Nat.add_sub_cancel, pow_succ]; ring

/-- **number of forests rooted at `R`** : `fc S R = |R| * |S|^(|S| - |R| - 1)`, in division-free form -/
theorem fc_formula {S R : Finset V} (hRS : R ⊆ S) : fc S R * S.card = R.card * S.card ^ (S.card - R.card) := by
  induction hS : S.card generalizing S R with
  | zero =>
    have : R.card = 0 := Nat.le_zero.1 (hS ▸ card_le_card hRS)
    rw [this]; simp
  | succ n ih =>
    rcases R.eq_empty_or_nonempty with hR | ⟨r, hr⟩
    · subst hR
      rw [fc_no_roots (card_pos.1 (by omega))]; simp
    rcases eq_or_ne R S with rfl | hne
    · rw [fc_self, hS, Nat.sub_self, pow_zero, one_mul, mul_one]
    -- `R ≠ S`: write `|R| = k + 1`, `|S \ R| = m`, so that `n = k + m ≥ 1`
    have hrS := hRS hr
    have hlt : R.card < S.card := card_lt_card (Finset.ssubset_iff_subset_ne.2 ⟨hRS, hne⟩)
    have hS' : (S.erase r).card = n := by rw [card_erase_of_mem hrS]; omega
    obtain ⟨k, hk⟩ : ∃ k, R.card = k + 1 := ⟨R.card - 1, by have := card_pos.2 ⟨r, hr⟩; omega⟩
    obtain ⟨m, hm⟩ : ∃ m, n = k + m := ⟨n - k, by omega⟩
    have hcard : (S \ R).card = m := by rw [card_sdiff_of_subset hRS, hS, hk]; omega
    have key : n * ∑ J ∈ (S \ R).powerset, fc (S.erase r) (R.erase r ∪ J)
        = ∑ j ∈ range (m + 1), m.choose j * ((k + j) * n ^ (m - j)) := by
      rw [mul_sum, ← hcard]
      refine (sum_congr rfl fun J hJ => ?_).trans
        ((Finset.sum_powerset_apply_card fun j => (k + j) * n ^ ((S \ R).card - j)).trans
          (sum_congr rfl fun _ _ => smul_eq_mul ..))
      rw [mem_powerset] at hJ
      have h1 := ih (erase_union_subset_erase hr hRS hJ) hS'
      rw [card_erase_union hr hJ, hk, Nat.add_sub_cancel] at h1
      rw [mul_comm, h1, hcard]
      congr 2
      omega
    rw [fc_rec hr hRS]
    apply Nat.eq_of_mul_eq_mul_left (show 0 < n by omega)
    calc n * ((∑ J ∈ (S \ R).powerset, fc (S.erase r) (R.erase r ∪ J)) * (n + 1))
        = (n + 1) * (n * ∑ J ∈ (S \ R).powerset, fc (S.erase r) (R.erase r ∪ J)) := by ring
      _ = (k * (n + 1) + m) * (n + 1) ^ m := by rw [key, sum_choose_add_mul_pow]
      _ = n * (R.card * (n + 1) ^ (n + 1 - R.card)) := by
          rw [hk, show n + 1 - (k + 1) = m by omega, hm]; ring

theorem cc_eq_fc {S : Finset V} {r : V} (hr : r ∈ S) : cc S (S.card - 1) = fc S {r} := by
  classical
  unfold cc fc
  rw [card_singleton]
  congr 1
  apply filter_congr
  intro A _
  exact (rconn_singleton hr A).symm

theorem cc_cayley (S : Finset V) (hS : S.Nonempty) : cc S (S.card - 1) = S.card ^ (S.card - 2) := by
  obtain ⟨r, hr⟩ := hS
  have h := fc_formula (S := S) (singleton_subset_iff.2 hr)
  rw [card_singleton, one_mul, ← cc_eq_fc hr] at h
  have hpos : 0 < S.card := card_pos.2 ⟨r, hr⟩
  rcases Nat.lt_or_ge S.card 2 with h2 | h2
  · have h1 : S.card = 1 := by omega
    rw [h1] at h ⊢; simpa using h
  · apply Nat.eq_of_mul_eq_mul_right hpos
    rw [h, ← pow_succ]
    congr 1; omega

theorem ccN_cayley (n : ℕ) (hn : 1 ≤ n) : ccN n (n - 1) = n ^ (n - 2) := by
  have : (univ : Finset (Fin n)).Nonempty := ⟨⟨0, by omega⟩, mem_univ _⟩
  have h := cc_cayley (univ : Finset (Fin n)) this
  simp only [card_univ, Fintype.card_fin] at h
  exact h

end Gcmpy.Cayley
