import GcmpyModel.Model.Rewire
import GcmpyModel.Lemmas.DrawSet
import GcmpyModel.Properties.C11
/-!
The whole `rewire()` loop (`Model/Rewire.lean`).  One induction over `outer` (`outer_main`) with a parametric invariant
`Q` of the graph, preserved by accepted steps and implying `WF`: it shows that the loop only ever makes steps under the
hypotheses `Ok` of the one-step theorems of `Properties/C11.lean`, that the drawable set follows the graph (`Sync`),
that no internal error ends the run and that the counter counts the accepted proposals.  The theorems of
`Properties/C11Loop.lean` and `Properties/C12Loop.lean` are instances of it, except `init_sync` (the start) and
`rewire_done_count`, which needs no `WF` and is a second induction.
-/
namespace Gcmpy.Rewire
open Gcmpy Gcmpy.Graph Gcmpy.MCMC

/-- the drawable set is a well-formed `DrawSet` (C20 invariant: the position map and the member
    list describe each other) and holds exactly the edge keys of the graph -/
def Sync (st : St) : Prop :=
  DrawSet.Inv st.S ∧ ∀ e : Edge, DrawSet.contains st.S e = true ↔ e ∈ st.G.edges.map (·.1)

namespace Lemmas

/-- `add` for every listed key -/
def addList (S : DrawSet.St Edge) (ks : List Edge) : DrawSet.St Edge :=
  ks.foldl (fun s k => DrawSet.add s k) S

/-- one `EdgeSet.remove`; `none` once a removal has raised -/
def removeStep (acc : Option (DrawSet.St Edge)) (k : Edge) : Option (DrawSet.St Edge) :=
  acc.bind (DrawSet.remove · k)

/-- `remove` for every listed key; `none` as soon as one is absent -/
def removeList (S : DrawSet.St Edge) (ks : List Edge) : Option (DrawSet.St Edge) :=
  ks.foldl removeStep (some S)

theorem addList_spec : ∀ (ks : List Edge) (S : DrawSet.St Edge), DrawSet.Inv S →
    DrawSet.Inv (addList S ks) ∧ ∀ y, y ∈ (addList S ks).edges ↔ y ∈ ks ∨ y ∈ S.edges
  | [], S, h => ⟨h, fun y => by simp [addList]⟩
  | k :: ks, S, h => by
    obtain ⟨h1, h2⟩ := addList_spec ks (DrawSet.add S k) (DrawSet.inv_add h k)
    refine ⟨h1, fun y => (h2 y).trans ?_⟩
    rw [DrawSet.mem_add h, List.mem_cons, or_left_comm, or_assoc]

theorem foldl_remove_none (ks : List Edge) :
    ks.foldl (fun (acc : Option (DrawSet.St Edge)) k =>
      match acc with
      | none => none
      | some s => DrawSet.remove s k) none = none :=
  List.foldl_fixed' (fun _ => rfl) ks

theorem removeList_spec : ∀ (ks : List Edge) (S : DrawSet.St Edge), DrawSet.Inv S → ks.Nodup →
    (∀ k ∈ ks, k ∈ S.edges) →
    ∃ S', removeList S ks = some S' ∧ DrawSet.Inv S' ∧ ∀ y, y ∈ S'.edges ↔ y ∈ S.edges ∧ y ∉ ks
  | [], S, h, _, _ => ⟨S, rfl, h, by simp⟩
  | k :: ks, S, h, hnd, hmem => by
    obtain ⟨S1, hS1⟩ := DrawSet.remove_present h k (hmem k List.mem_cons_self)
    have hm1 := DrawSet.mem_remove h k hS1
    obtain ⟨hk, hnd'⟩ := List.nodup_cons.1 hnd
    obtain ⟨S', hS', hI', hm'⟩ := removeList_spec ks S1 (DrawSet.inv_remove h k hS1) hnd'
      fun x hx => (hm1 x).2 ⟨hmem x (List.mem_cons_of_mem _ hx), fun e => hk (e ▸ hx)⟩
    refine ⟨S', ?_, hI', fun y => ?_⟩
    · exact (congrArg (ks.foldl removeStep) (show removeStep (some S) k = some S1 from hS1)).trans hS'
    · rw [hm' y, hm1 y, List.mem_cons, not_or, and_assoc]

/-- the two-at-a-time removal loop of `rewire()` is a removal of the interleaved key list -/
theorem applySet_eq (S : DrawSet.St Edge) (news e0s e1s : List Edge) :
    applySet S news e0s e1s =
      removeList (addList S (news.map normE)) ((e0s.zip e1s).flatMap fun p => [normE p.1, normE p.2]) := by
  unfold applySet removeList addList
  rw [List.foldl_map, List.foldl_flatMap]
  show List.foldl _ (some _) (e0s.zip e1s) = _
  congr 1
  funext acc p
  cases acc with
  | none => rfl
  | some s =>
    simp only [List.foldl_cons, List.foldl_nil, removeStep, Option.bind_some]
    cases DrawSet.remove s (normE p.1) <;> rfl

theorem zipKeys_perm {e0s e1s : List Edge} (hlen : e0s.length = e1s.length) :
    ((e0s.zip e1s).flatMap fun p => [normE p.1, normE p.2]).Perm ((e0s ++ e1s).map normE) := by
  refine (List.flatMap_pair_perm (fun p : Edge × Edge => normE p.1) (fun p => normE p.2) (e0s.zip e1s)).trans ?_
  have h1 : (e0s.zip e1s).map (fun p => normE p.1) = e0s.map normE := by
    conv_rhs => rw [← List.map_fst_zip (l₁ := e0s) (l₂ := e1s) (by omega), List.map_map]
    rfl
  have h2 : (e0s.zip e1s).map (fun p => normE p.2) = e1s.map normE := by
    conv_rhs => rw [← List.map_snd_zip (l₁ := e0s) (l₂ := e1s) (by omega), List.map_map]
    rfl
  rw [h1, h2, List.map_append]

theorem sync_mem {st : St} (h : Sync st) (e : Edge) : e ∈ st.S.edges ↔ e ∈ st.G.edges.map (·.1) := by
  rw [h.1.mem_iff, h.2]

theorem sync_of_mem {G : Net} {S : DrawSet.St Edge} {c : Nat} (hI : DrawSet.Inv S)
    (h : ∀ e, e ∈ S.edges ↔ e ∈ G.edges.map (·.1)) : Sync ⟨G, S, c⟩ :=
  ⟨hI, fun e => by rw [← hI.mem_iff]; exact h e⟩

theorem init_sync (G : Net) (hWF : WF G) : Sync (init G) := by
  have hmap : (G.edges.map (·.1)).map normE = G.edges.map (·.1) := by
    rw [List.map_map]
    exact List.map_congr_left fun p hp => (hWF.2.1 p hp).symm
  obtain ⟨h1, h2⟩ := addList_spec ((G.edges.map (·.1)).map normE) DrawSet.empty DrawSet.inv_empty
  rw [addList, List.foldl_map] at h1 h2
  refine sync_of_mem (G := G) (S := initSet G) h1 fun e => ?_
  rw [initSet, h2 e, hmap]
  exact or_iff_left List.not_mem_nil

theorem propsOf_keys (cfg : Cfg) (G : Net) (u0 v0 : Nat) (ps : List (Edge × Edge)) :
    (propsOf cfg G u0 v0 ps).map (·.1) = ps.flatMap fun p => [(u0, p.2.2), (v0, p.1.2)] := by
  unfold propsOf proposalsFixed proposals
  split <;> rw [List.map_flatMap] <;> rfl

theorem newE_keys (u0 v0 : Nat) (α β : Edge × Edge → Attr) (ps : List (Edge × Edge)) :
    (newE u0 v0 α β ps).map (·.1) = (ps.flatMap fun p => [(u0, p.2.2), (v0, p.1.2)]).map normE := by
  rw [newE, List.map_flatMap, List.map_flatMap]; rfl

/-- the drawable set follows the graph through an accepted swap, and no `remove` raises -/
theorem sync_after {G : Net} {u0 v0 : Nat} {e0s e1s : List Edge} {A B : Nat} {ps : List (Edge × Edge)}
    {α β : Edge × Edge → Attr} (F : Facts G u0 v0 e0s e1s A B) (P : Pairing G e0s e1s ps)
    {S : DrawSet.St Edge} {c : Nat} (hS : Sync ⟨G, S, c⟩) :
    ∃ S', applySet S (ps.flatMap fun p => [(u0, p.2.2), (v0, p.1.2)]) e0s e1s = some S' ∧
      Sync ⟨{ G with edges := afterEdges G u0 v0 e0s e1s α β ps }, S', c⟩ := by
  have hmemS : ∀ e, e ∈ S.edges ↔ e ∈ G.edges.map (·.1) := sync_mem hS
  obtain ⟨hI1, hm1⟩ := addList_spec ((newE u0 v0 α β ps).map (·.1)) S hS.1
  have hperm := zipKeys_perm F.len
  obtain ⟨S', hS', hI', hm'⟩ := removeList_spec _ _ hI1 (hperm.nodup_iff.2 F.removed_nodup) fun k hk =>
    (hm1 k).2 (.inr ((hmemS k).2 (F.removed_mem_keys (hperm.subset hk))))
  refine ⟨S', by rw [applySet_eq, ← newE_keys u0 v0 α β ps]; exact hS', sync_of_mem hI' fun e => ?_⟩
  -- a new key is not a key of `G`, a removed one is
  have hnew : e ∈ (newE u0 v0 α β ps).map (·.1) → e ∉ (e0s ++ e1s).map normE := fun hn hr => by
    obtain ⟨x, hx, rfl⟩ := List.mem_map.1 hn
    exact F.newKeys_fresh P hx (F.removed_mem_keys hr)
  show e ∈ S'.edges ↔ e ∈ (afterEdges G u0 v0 e0s e1s α β ps).map (·.1)
  rw [mem_keys_afterEdges, hm' e, hm1 e, hmemS e, hperm.mem_iff, or_and_right, and_iff_left_of_imp hnew, or_comm]

/-- everything `rewire()` does after `swap_condition` said yes, under the step hypotheses -/
theorem accept_step (cfg : Cfg) {G G' : Net} {u0 v0 : Nat} {e0s e1s : List Edge} {S : DrawSet.St Edge} {c : Nat}
    (hok : Ok G u0 v0 e0s e1s) (hS : Sync ⟨G, S, c⟩) (ha : applyGraph cfg G u0 v0 e0s e1s = some G') :
    G'.edges.length = G.edges.length ∧
    ∃ S', applySet S ((propsOf cfg G u0 v0 ((pairUp G e0s e1s).getD [])).map (·.1)) e0s e1s = some S' ∧
      Sync ⟨G', S', c⟩ := by
  obtain ⟨A, B, ps, α, β, F, P, hps, -, -, rfl⟩ := applyB_eq cfg.fixed hok ha
  rw [propsOf_keys, hps, Option.getD_some]
  exact ⟨F.length_after P, sync_after F P hS⟩

theorem isCorner_of_cornerOk {G : Net} {u m : Nat} {es : List Edge} (h : cornerOk G u m es = true) :
    IsCorner G u es := by
  unfold cornerOk at h
  simp only [Bool.and_eq_true, Bool.not_eq_true', List.all_eq_true, decide_eq_true_eq] at h
  obtain ⟨⟨⟨h1, h2⟩, h3⟩, h4⟩ := h
  exact ⟨fun h0 => by rw [h0] at h1; exact Bool.noConfusion h1, h2, m, h3, h4⟩

/-- what the inner loop returns: a found corner is a real, suitable one; it stops only on a script that is too short,
    on a bad event, or (a `KeyError`) on a member of the set that is not an edge of the graph -/
theorem inner_spec (G : Net) (S : DrawSet.St Edge) (sl : Nat) (t0 : String) (u0 : Nat) (e0s : List Edge)
    (n : Nat) (evs : List DrawEv) :
    match inner G S sl t0 u0 e0s n evs with
    | .found v0 e1s _ _ => (∃ m, cornerOk G v0 m e1s = true) ∧ suitable G u0 v0 e0s e1s = true
    | .notFound _ => True
    | .stop o => o = .exhausted ∨ o = .notMember ∨ o = .badCorner ∨
        (o = .keyError ∧ ∃ e, DrawSet.contains S e = true ∧ attrOf G e.1 e.2 = none) := by
  fun_induction inner G S sl t0 u0 e0s n evs
  case case1 => exact .inl rfl                                    -- the script ran out
  case case2 => trivial                                           -- `search_count > search_limit`
  case case3 ev _ _ hmem hnone => exact .inr (.inr (.inr ⟨rfl, ev.e, hmem, hnone⟩))   -- `G.edges[e1]` fails
  case case4 ih => exact ih                                       -- other topology: `continue`
  case case5 hc hs => exact ⟨⟨_, hc⟩, hs⟩                          -- suitable: `break`
  case case6 ih => exact ih                                       -- not suitable: next try
  case case7 => exact .inr (.inr (.inl rfl))                      -- corner list not the corner
  case case8 => exact .inr (.inl rfl)                             -- draw not a member
  case case9 => trivial                                           -- `search_count > search_limit`

theorem ok_of_found {G : Net} {S : DrawSet.St Edge} {sl : Nat} {t0 : String} {u0 m n : Nat} {e0s : List Edge}
    {evs : List DrawEv} {v0 : Nat} {e1s : List Edge} {s : Nat} {rest : List DrawEv} (hWF : WF G)
    (hc0 : cornerOk G u0 m e0s = true) (hin : inner G S sl t0 u0 e0s n evs = .found v0 e1s s rest) :
    Ok G u0 v0 e0s e1s := by
  have := inner_spec G S sl t0 u0 e0s n evs
  rw [hin] at this
  obtain ⟨⟨m1, hc1⟩, hs⟩ := this
  exact ⟨hWF, isCorner_of_cornerOk hc0, isCorner_of_cornerOk hc1, hs⟩

theorem inner_stop {G : Net} {S : DrawSet.St Edge} {sl : Nat} {t0 : String} {u0 n : Nat} {e0s : List Edge}
    {evs : List DrawEv} {o : Outcome} (hin : inner G S sl t0 u0 e0s n evs = .stop o) :
    o = .exhausted ∨ o = .notMember ∨ o = .badCorner ∨
      (o = .keyError ∧ ∃ e, DrawSet.contains S e = true ∧ attrOf G e.1 e.2 = none) := by
  have := inner_spec G S sl t0 u0 e0s n evs
  rwa [hin] at this

theorem attr_of_member {st : St} (hWF : WF st.G) (hS : Sync st) {e : Edge} (h : DrawSet.contains st.S e = true) :
    ∃ a, attrOf st.G e.1 e.2 = some a := by
  have hk := (hS.2 e).1 h
  obtain ⟨p, hp, rfl⟩ := List.mem_map.1 hk
  refine ⟨p.2, attrOf_of_mem hWF ?_⟩
  have : normE (p.1.1, p.1.2) = p.1 := (hWF.2.1 p hp).symm
  rw [this]
  exact hp

/-- the internal errors that cannot occur on a well-formed input -/
def bad : List Outcome := [.keyError, .raisedIndex, .raisedEdgePresent, .raisedRemove, .raisedCount]

/-- what is proved of every result -/
def Post (Q : Net → Prop) (R : Result) : Prop :=
  Q R.st.G ∧ Sync R.st ∧ R.outcome ∉ bad ∧ R.st.count = (R.trace.filter fun r => r.d = .accept).length

theorem post_fin {Q : Net → Prop} {st : St} (hQ : Q st.G) (hS : Sync st) {o : Outcome} (ho : o ∉ bad)
    {tr : List Rec} (hc : st.count = (tr.filter fun r => r.d = .accept).length) (n m : Nat) :
    Post Q ⟨st, tr.reverse, o, n, m⟩ := by
  refine ⟨hQ, hS, ho, ?_⟩
  simp only [List.filter_reverse, List.length_reverse]
  exact hc

/-- the number of accepted records after one more record.  `d` is free so that at the calls in `outer_main` the
    hypothesis `swapCondition … = d` of the branch can serve as `h` (it is `rec.d = d` by definition of the record)
    and the `if` is then decided by `rfl` -/
theorem filter_accept_cons {rec : Rec} {d : Decision} (tr : List Rec) (h : rec.d = d) :
    ((rec :: tr).filter fun r => r.d = .accept).length =
      (tr.filter fun r => r.d = .accept).length + if d = .accept then 1 else 0 := by
  subst h
  rw [List.filter_cons]
  split <;> simp_all

/-- the loop invariant `Q` of the graph (preserved by accepted steps, implying `WF`), `Sync` and "the counter counts the
    accepted proposals" hold of the result, and no internal error ends the run.  The cases `case1` … `case18` of the
    induction are the 18 exits of `outer` (a `fin …`, a recursive call, or the final `done`) in the order of its text;
    `case … =>` names the last hypotheses of the branch, from the end backwards -/
theorem outer_main (cfg : Cfg) (Q : Net → Prop) (hQwf : ∀ G, Q G → WF G)
    (hQstep : ∀ G u0 v0 e0s e1s r G', Q G → Ok G u0 v0 e0s e1s →
      swapCondition G cfg.names cfg.target u0 v0 e0s e1s r = .accept →
      applyGraph cfg G u0 v0 e0s e1s = some G' → Q G')
    (fuel : Nat) (st : St) (evs : List DrawEv) (rs : List (Option Rat)) (tr : List Rec) :
    Q st.G → Sync st → st.count = (tr.filter fun r => r.d = .accept).length →
      Post Q (outer cfg fuel st evs rs tr) := by
  fun_induction outer cfg fuel st evs rs tr <;> intro hQ hS hc <;> have hWF := hQwf _ hQ
  -- once `swap_condition` is called the step hypotheses hold
  case' case10 | case12 | case13 | case14 | case15 =>
    have hok := ok_of_found hWF ‹cornerOk _ _ _ _ = true› ‹inner _ _ _ _ _ _ _ _ = .found _ _ _ _›
  -- accepted, applied to the graph and to the set, edge count unchanged: next iteration in the new state
  case case15 hd G' hG' _ S' hS' _ ih =>
    obtain ⟨-, S'', hS'', hSync⟩ := accept_step cfg hok hS hG'
    cases hS'.symm.trans hS''
    exact ih (hQstep _ _ _ _ _ _ _ hQ hok hd hG') hSync (by rw [filter_accept_cons _ hd, hc]; rfl)
  -- next iteration in the same state: nothing found, found on the last try, rejected
  case case5 ih => exact ih hQ hS hc
  case case6 ih => exact ih hQ hS hc
  case case9 hd ih => exact ih hQ hS (by rw [filter_accept_cons _ hd, hc]; rfl)
  -- the internal errors contradict `WF` and `Sync`: `G.edges[e0]`, the inner loop, IndexError, "already present",
  -- `EdgeSet.remove`, the edge-count test
  case case3 hmem hnone => obtain ⟨a, ha⟩ := attr_of_member hWF hS hmem; cases ha.symm.trans hnone
  case case4 o hin =>
    refine post_fin hQ hS ?_ hc _ _
    rcases inner_stop hin with rfl | rfl | rfl | ⟨rfl, e, he, hne⟩
    · decide
    · decide
    · decide
    · obtain ⟨a, ha⟩ := attr_of_member hWF hS he; cases ha.symm.trans hne
  case case10 hd => exact absurd hd (swapCondition_ne_raiseIndex hok)
  case case12 hnone => obtain ⟨_, _, _, _, _, _, hG', _⟩ := applyB_shape cfg.fixed hok; cases hG'.symm.trans hnone
  case case13 G' hG' _ hnone => obtain ⟨-, S', hS', -⟩ := accept_step cfg hok hS hG'; cases hS'.symm.trans hnone
  case case14 G' hG' _ _ _ hlen => exact absurd (accept_step cfg hok hS hG').1 hlen
  -- the other ends leave the state as it is: division by zero (recorded), …
  case case11 hd => exact post_fin hQ hS (by decide) (by rw [filter_accept_cons _ hd, hc]; rfl) _ _
  -- … out of fuel / draws / numbers, draw not a member, bad corner, missing uniform number, `count > limit`
  all_goals exact post_fin hQ hS (by decide) hc _ _

theorem rewire_post (cfg : Cfg) (G : Net) (evs : List DrawEv) (rs : List (Option Rat)) (hWF : WF G) :
    Post (Preserves G) (rewire cfg G evs rs) := by
  unfold rewire
  exact outer_main cfg (Preserves G) (fun _ h => h.1)
    (fun _ _ _ _ _ _ _ h hok _ ha => h.trans (applyB_preserves cfg.fixed hok ha))
    _ _ _ _ _ (.refl hWF) (init_sync G hWF) rfl

theorem rewire_steps (cfg : Cfg) (G : Net) (evs : List DrawEv) (rs : List (Option Rat)) (hf : cfg.fixed = false)
    (hWF : WF G) : Steps cfg.names cfg.target G (rewire cfg G evs rs).st.G := by
  unfold rewire
  refine (outer_main cfg (fun G' => Steps cfg.names cfg.target G G') (fun _ h => (steps_invariant hWF h).1)
    ?_ _ _ _ _ _ (Steps.refl G) (init_sync G hWF) rfl).1
  intro G1 u0 v0 e0s e1s r G' h hok hd ha
  refine Steps.step u0 v0 e0s e1s r h hok ?_
  unfold applyGraph at ha
  rw [hf] at ha
  unfold stepNet
  rw [hd]
  exact ha

theorem rewire_invariants (cfg : Cfg) (G : Net) (evs : List DrawEv) (rs : List (Option Rat)) (hWF : WF G) :
    WF (rewire cfg G evs rs).st.G ∧ (rewire cfg G evs rs).st.G.jd = G.jd ∧
    (rewire cfg G evs rs).st.G.edges.length = G.edges.length ∧
    ∀ v t, topDegree (rewire cfg G evs rs).st.G v t = topDegree G v t :=
  (rewire_post cfg G evs rs hWF).1

theorem rewire_sync (cfg : Cfg) (G : Net) (evs : List DrawEv) (rs : List (Option Rat)) (hWF : WF G) :
    Sync (rewire cfg G evs rs).st :=
  (rewire_post cfg G evs rs hWF).2.1

theorem rewire_no_internal_error (cfg : Cfg) (G : Net) (evs : List DrawEv) (rs : List (Option Rat)) (hWF : WF G) :
    (rewire cfg G evs rs).outcome ∉
      [Outcome.keyError, .raisedIndex, .raisedEdgePresent, .raisedRemove, .raisedCount] :=
  (rewire_post cfg G evs rs hWF).2.2.1

theorem rewire_count_accepts (cfg : Cfg) (G : Net) (evs : List DrawEv) (rs : List (Option Rat)) (hWF : WF G) :
    (rewire cfg G evs rs).st.count = ((rewire cfg G evs rs).trace.filter fun r => r.d = .accept).length :=
  (rewire_post cfg G evs rs hWF).2.2.2

/-- a normal end is the end of `while convergence_count <= limit`; no hypothesis on the input -/
theorem outer_done_count (cfg : Cfg) (fuel : Nat) (st : St) (evs : List DrawEv) (rs : List (Option Rat))
    (tr : List Rec) : st.count ≤ cfg.climit + 1 → (outer cfg fuel st evs rs tr).outcome = .done →
      (outer cfg fuel st evs rs tr).st.count = cfg.climit + 1 := by
  fun_induction outer cfg fuel st evs rs tr <;> intro hle h
  -- next iteration: in the same state, or after a swap made while `count ≤ limit`
  case case5 ih | case6 ih | case9 ih => exact ih hle h
  case case15 ih => exact ih (Nat.succ_le_succ ‹_ ≤ cfg.climit›) h
  -- the loop condition failed
  case case18 hgt => exact Nat.le_antisymm hle (Nat.not_le.1 hgt)
  -- the inner loop never stops with `done`, nor does any other exit
  case case4 hin => cases h; rcases inner_stop hin with h | h | h | ⟨h, _⟩ <;> cases h
  all_goals cases h

theorem rewire_done_count (cfg : Cfg) (G : Net) (evs : List DrawEv) (rs : List (Option Rat))
    (h : (rewire cfg G evs rs).outcome = .done) : (rewire cfg G evs rs).st.count = cfg.climit + 1 := by
  unfold rewire at h ⊢
  exact outer_done_count cfg _ _ _ _ _ (by simp [init]) h

end Lemmas
end Gcmpy.Rewire
