import GcmpyModel.Model.DrawSet
/-! The invariant of the DrawSet (index map and member list describe each other) and what `add`, `remove`, `draw` do to
the member list under it; the refinement to a plain set is `Properties/C20.lean`. -/
namespace Gcmpy.DrawSet
-- `inv_empty`, `draw_mem`, `draw_surj` take the `DecidableEq α` of the `variable` line without using it
set_option linter.unusedSectionVars false
variable {α : Type} [DecidableEq α]

/-- the index map and the member list describe each other -/
def Inv (s : St α) : Prop := ∀ x i, s.map x = some i ↔ s.edges[i]? = some x

theorem inv_empty : Inv (empty : St α) := by
  intro x i; simp [empty]

omit [DecidableEq α] in
theorem Inv.mem_iff {s : St α} (h : Inv s) (x : α) : x ∈ s.edges ↔ contains s x = true := by
  unfold contains
  constructor
  · intro hx
    rcases List.getElem?_of_mem hx with ⟨i, hi⟩
    rw [(h x i).2 hi]; rfl
  · intro hx
    cases hm : s.map x with
    | none => simp [hm] at hx
    | some i => exact List.mem_of_getElem? ((h x i).1 hm)

omit [DecidableEq α] in
theorem Inv.nodup {s : St α} (h : Inv s) : s.edges.Nodup := by
  rw [List.nodup_iff_pairwise_ne, List.pairwise_iff_getElem]
  intro i j hi hj hij heq
  have e1 : s.edges[i]? = some s.edges[i] := by simp [hi]
  have e2 : s.edges[j]? = some s.edges[i] := by simp [hj, heq]
  have m1 := (h _ _).2 e1
  have m2 := (h _ _).2 e2
  rw [m1] at m2
  cases m2; omega

theorem inv_add {s : St α} (h : Inv s) (x : α) : Inv (add s x) := by
  unfold add
  split
  · exact h
  · rename_i hc
    have hn : s.map x = none := by simpa [contains] using hc
    intro y i
    -- the invariant at `(y, i)`, and at `(x, i)` (`x` is at no position): the rest is the index arithmetic of `++ [x]`
    have hy := h y i
    have hx := h x i
    simp only [assign, List.getElem?_append, List.getElem?_singleton]
    grind

/-- `remove`, read off its definition: `x` sits at some position `i`, which the last member takes over -/
theorem remove_eq_some {s s' : St α} {x : α} (hr : remove s x = some s') :
    ∃ i last, s.map x = some i ∧ s.edges.getLast? = some last ∧
      s' = if i ≠ s.edges.dropLast.length then ⟨s.edges.dropLast.set i last, assign (erase s.map x) last i⟩
           else ⟨s.edges.dropLast, erase s.map x⟩ := by
  unfold remove at hr
  split at hr
  · cases hr
  · split at hr
    · cases hr
    · rename_i i hi _ last hlast
      refine ⟨i, last, hi, hlast, ?_⟩
      simp only at hr
      split at hr <;> cases hr
      · rw [if_pos ‹_›]
      · rw [if_neg ‹_›]

omit [DecidableEq α] in
theorem Inv.map_getLast {s : St α} (h : Inv s) {last : α} (hl : s.edges.getLast? = some last) :
    s.map last = some (s.edges.length - 1) := by
  rw [h, ← List.getLast?_eq_getElem?, hl]

theorem inv_remove {s s' : St α} (h : Inv s) (x : α) (hr : remove s x = some s') : Inv s' := by
  obtain ⟨i, last, hi, hlast, rfl⟩ := remove_eq_some hr
  have hl := (h last _).1 (h.map_getLast hlast)
  have hp := (h x i).1 hi
  intro y j
  have hy := h y
  -- index bookkeeping: position `i` now holds `last`, the last position is gone
  split
  · simp only [assign, erase, List.getElem?_set, List.length_dropLast, List.getElem?_dropLast]
    have hlast' := h last
    grind
  · simp only [erase, List.getElem?_dropLast]
    grind

theorem mem_add {s : St α} (h : Inv s) (x y : α) :
    y ∈ (add s x).edges ↔ y = x ∨ y ∈ s.edges := by
  unfold add
  split
  · rename_i hc
    have hx : x ∈ s.edges := (h.mem_iff x).2 hc
    constructor
    · exact Or.inr
    · rintro (rfl | h')
      · exact hx
      · exact h'
  · simp [or_comm]

theorem add_present_noop {s : St α} (h : Inv s) (x : α) (hx : x ∈ s.edges) : add s x = s := by
  unfold add; rw [if_pos ((h.mem_iff x).1 hx)]

theorem len_add_absent {s : St α} (h : Inv s) (x : α) (hx : x ∉ s.edges) :
    len (add s x) = len s + 1 := by
  unfold add len
  have : contains s x = false := by
    cases hc : contains s x
    · rfl
    · exact absurd ((h.mem_iff x).2 hc) hx
  simp [this]

theorem remove_absent {s : St α} (h : Inv s) (x : α) (hx : x ∉ s.edges) : remove s x = none := by
  unfold remove
  cases hm : s.map x with
  | none => rfl
  | some i => exact absurd (List.mem_of_getElem? ((h x i).1 hm)) hx

theorem remove_present {s : St α} (h : Inv s) (x : α) (hx : x ∈ s.edges) :
    ∃ s', remove s x = some s' := by
  unfold remove
  rcases List.getElem?_of_mem hx with ⟨i, hi⟩
  rw [(h x i).2 hi]
  cases hl : s.edges.getLast? with
  | none => simp [List.getLast?_eq_none_iff] at hl; simp [hl] at hx
  | some last => simp only; split <;> exact ⟨_, rfl⟩

/-- read on the index map: `x` is erased, and the entry of `last`, if moved, is still an entry -/
theorem mem_remove {s s' : St α} (h : Inv s) (x : α) (hr : remove s x = some s') (y : α) :
    y ∈ s'.edges ↔ y ∈ s.edges ∧ y ≠ x := by
  rw [(inv_remove h x hr).mem_iff, h.mem_iff]
  obtain ⟨i, last, hi, hlast, rfl⟩ := remove_eq_some hr
  have hl := h.map_getLast hlast
  unfold contains
  split
  · rename_i hne
    have hlx : last ≠ x := by
      rintro rfl
      rw [hi] at hl
      exact hne ((Option.some.inj hl).trans List.length_dropLast.symm)
    simp only [assign, erase]
    by_cases h1 : y = last
    · subst h1; simp [hl, hlx]
    · by_cases h2 : y = x
      · subst h2; simp [h1, hi]
      · simp [h1, h2]
  · simp only [erase]
    by_cases h2 : y = x <;> simp [h2, hi]

theorem len_remove {s s' : St α} {x : α} (hr : remove s x = some s') : len s' + 1 = len s := by
  obtain ⟨i, last, -, hlast, rfl⟩ := remove_eq_some hr
  have : 0 < s.edges.length := List.length_pos_iff.2 fun h0 => by rw [h0] at hlast; cases hlast
  unfold len
  split <;> simp only [List.length_set, List.length_dropLast] <;> omega

theorem draw_mem (s : St α) (i : Nat) (x : α) (h : draw s i = some x) : x ∈ s.edges :=
  List.mem_of_getElem? h

omit [DecidableEq α] in
theorem draw_lt (s : St α) (i : Nat) (hi : i < len s) : ∃ x, draw s i = some x :=
  ⟨s.edges[i]'hi, by unfold draw; exact List.getElem?_eq_getElem hi⟩

theorem draw_surj (s : St α) (x : α) (h : x ∈ s.edges) : ∃ i, i < len s ∧ draw s i = some x := by
  rcases List.getElem?_of_mem h with ⟨i, hi⟩
  exact ⟨i, (List.getElem?_eq_some_iff.1 hi).1, hi⟩

end Gcmpy.DrawSet
