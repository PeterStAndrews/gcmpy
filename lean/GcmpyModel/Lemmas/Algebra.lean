import GcmpyModel.Model.Algebra
import GcmpyModel.Lemmas.ListFacts
import GcmpyModel.Lemmas.Loaders
import Mathlib.Algebra.Order.Field.Rat
/-!
Route: each loop of the model is identified with a closed form once — the excess and inverted tables with a
`filter`/`map` of the input (`exTable`, `invTable`: a `for … : q[g k] = h k v` loop with injective `g`), the
histogram and the row sums with a `Dict.tally`, the `Option` loops with `mapM_ite`, the merge with one `setAll` —
and the inversion is proved for observations that are conditionals of one table under arbitrary conditions
(`jddFromExcess_of_conditionals`).
-/
namespace Gcmpy.Algebra
open Gcmpy Gcmpy.Loaders

def Uniform (P : Table) (T : Nat) : Prop := ∀ kp ∈ P, kp.1.length = T

/-- `mean P i` = the `P`-weighted mean of the `i`-th component -/
def mean (P : Table) (i : Nat) : Rat := (P.map fun kp => ((kp.1.getD i 0 : Nat) : Rat) * kp.2).sum

def posAt (i : Nat) (k : JD) : Bool := decide (k.getD i 0 > 0)

/-- some component is positive (`k ≠ 0`) -/
def anyPos (k : JD) : Bool := k.any fun d => decide (d > 0)

/-- `Z_i`: mass of the keys with a positive `i`-th component -/
def massPos (P : Table) (i : Nat) : Rat := ((P.filter fun kp => posAt i kp.1).map (·.2)).sum

/-- `Z`: mass of the keys `≠ 0` -/
def massAnyPos (P : Table) : Rat := ((P.filter fun kp => anyPos kp.1).map (·.2)).sum

/-- a loop whose rounds either raise or append a result -/
theorem mapM_ite {α β : Type} (bad : α → Prop) [DecidablePred bad] (g : α → β) (l : List α) :
    l.mapM (fun a => if bad a then none else some (g a)) =
      if ∃ a ∈ l, bad a then none else some (l.map g) := by
  split
  · next h => obtain ⟨a, ha, hb⟩ := h; exact List.mapM_option_eq_none ha (if_pos hb)
  · next h =>
    rw [List.mapM_option_eq_some_iff, List.map_map]
    exact List.map_congr_left fun a ha => if_neg fun hb => h ⟨a, ha, hb⟩

theorem zipIdx_map_range {α : Type} (f : Nat → α) (T : Nat) :
    ((List.range T).map f).zipIdx = (List.range T).map fun i => (f i, i) := by
  apply List.ext_getElem
  · simp
  · intro j h1 h2
    simp [List.getElem_zipIdx]

theorem zip_map_range {α β : Type} (names : List α) (f : Nat → β) :
    names.zip ((List.range names.length).map f) = names.zipIdx.map fun p => (p.1, f p.2) := by
  rw [List.zip_map_right, List.range_eq_range', ← List.zipIdx_eq_zip_range']; rfl

theorem get_zipIdx_map {α β : Type} [DecidableEq α] (f : Nat → β) {names : List α} (hn : names.Nodup)
    {nj : α × Nat} (h : nj ∈ names.zipIdx) :
    Dict.get (names.zipIdx.map fun p => (p.1, f p.2)) nj.1 = some (f nj.2) :=
  Dict.get_of_mem _ (by rw [Dict.keys_map _ fun k : α => k, List.map_id', Dict.keys]
                        exact (List.zipIdx_map_fst 0 names).symm ▸ hn)
    (nj.1, f nj.2) (List.mem_map.2 ⟨nj, h, rfl⟩)

/-- the loops `for k, v in d.items(): q[g(k)] = h(k, v)` with `g` injective on the keys build `d` re-keyed,
    entry by entry and in order -/
theorem foldl_set_map {κ ν μ : Type} [DecidableEq κ] (d : List (κ × ν)) (g : κ → κ) (h : κ × ν → μ)
    (hn : (Dict.keys d).Nodup) (hinj : ∀ a ∈ Dict.keys d, ∀ b ∈ Dict.keys d, g a = g b → a = b) :
    d.foldl (fun q kv => Dict.set q (g kv.1) (h kv)) [] = d.map fun kv => (g kv.1, h kv) :=
  (Dict.foldl_set_eq_setAll (fun kv => g kv.1) h d []).trans
    (Dict.setAll_nil_of_nodup (by rw [Dict.keys_map]; exact hn.map_on hinj))

theorem modify_eq_self_of {α : Type} (l : List α) (i : Nat) (f : α → α) (h : ∀ x, l[i]? = some x → f x = x) :
    l.modify i f = l := by
  induction l generalizing i with
  | nil => exact List.modify_nil f i
  | cons a l ih =>
    cases i with
    | zero => rw [List.modify_zero_cons, h a rfl]
    | succ i => rw [List.modify_succ_cons, ih i fun x hx => h x hx]

theorem getD_pos {k : JD} {i : Nat} (h : k.getD i 0 > 0) : ∃ x, k[i]? = some x ∧ 0 < x ∧ k.getD i 0 = x := by
  rw [List.getD_eq_getElem?_getD] at h ⊢
  cases hx : k[i]? with
  | none => rw [hx] at h; exact absurd h (Nat.lt_irrefl 0)
  | some x => rw [hx] at h; exact ⟨x, rfl, h, rfl⟩

theorem modify_pred_succ (k : JD) (i : Nat) (h : k.getD i 0 > 0) :
    (k.modify i (· - 1)).modify i (· + 1) = k := by
  rw [List.modify_modify_eq]
  obtain ⟨x, hx, hpos, _⟩ := getD_pos h
  exact modify_eq_self_of k i _ fun y hy => by
    rw [hx] at hy; cases hy; exact Nat.sub_add_cancel hpos

theorem modify_succ_pred (k : JD) (i : Nat) : (k.modify i (· + 1)).modify i (· - 1) = k := by
  rw [List.modify_modify_eq]
  exact modify_eq_self_of k i _ fun y _ => Nat.add_sub_cancel ..

theorem getD_modify_pred (k : JD) (i : Nat) (h : k.getD i 0 > 0) :
    (k.modify i (· - 1)).getD i 0 + 1 = k.getD i 0 := by
  obtain ⟨x, hx, hpos, e⟩ := getD_pos h
  rw [e, List.getD_eq_getElem?_getD, List.getElem?_modify_eq, hx]
  exact Nat.sub_add_cancel hpos

theorem modify_pred_inj {i : Nat} {k k' : JD} (hk : k.getD i 0 > 0) (hk' : k'.getD i 0 > 0)
    (h : k.modify i (· - 1) = k'.modify i (· - 1)) : k = k' := by
  rw [← modify_pred_succ k i hk, ← modify_pred_succ k' i hk', h]

theorem modify_succ_inj {i : Nat} {k k' : JD} (h : k.modify i (· + 1) = k'.modify i (· + 1)) : k = k' := by
  rw [← modify_succ_pred k i, ← modify_succ_pred k' i, h]

theorem posAt_iff (i : Nat) (k : JD) : posAt i k = true ↔ k.getD i 0 > 0 := decide_eq_true_iff

theorem averages_nil : averages [] = none := rfl

theorem averages_eq (P : Table) (T : Nat) (hne : P ≠ []) (hu : Uniform P T) :
    averages P = some ((List.range T).map (mean P)) := by
  cases P with
  | nil => exact absurd rfl hne
  | cons x r =>
    rw [averages, hu x List.mem_cons_self]
    exact congrArg some (List.map_congr_left fun i _ => List.sum_eq_foldl.symm)

/-- the excess table of topology `i`, as a plain `filter` + `map` of the input -/
def exTable (P : Table) (i : Nat) : Table :=
  (P.filter fun kp => posAt i kp.1).map fun kp =>
    (kp.1.modify i (· - 1), (((kp.1.getD i 0 : Nat) : Rat) * kp.2) / mean P i)

theorem keys_exTable (P : Table) (i : Nat) :
    Dict.keys (exTable P i) = ((Dict.keys P).filter (posAt i)).map fun k => k.modify i (· - 1) := by
  rw [exTable, Dict.keys_map _ fun k : JD => k.modify i (· - 1), Dict.keys_filter]

theorem modify_pred_injOn_posAt (P : Table) (i : Nat) :
    ∀ a ∈ Dict.keys (P.filter fun kp => posAt i kp.1), ∀ b ∈ Dict.keys (P.filter fun kp => posAt i kp.1),
      a.modify i (· - 1) = b.modify i (· - 1) → a = b := by
  rw [Dict.keys_filter]
  exact fun a ha b hb => modify_pred_inj ((posAt_iff i a).1 (List.mem_filter.1 ha).2)
    ((posAt_iff i b).1 (List.mem_filter.1 hb).2)

theorem nodup_keys_exTable (P : Table) (i : Nat) (hn : (Dict.keys P).Nodup) :
    (Dict.keys (exTable P i)).Nodup := by
  rw [exTable, Dict.keys_map _ fun k : JD => k.modify i (· - 1)]
  exact List.Nodup.map_on (modify_pred_injOn_posAt P i) (by rw [Dict.keys_filter]; exact hn.filter _)

/-- the excess tables are the plain `filter`+`map`s `exTable P i`; the only failure is a zero mean with a
    positive component present -/
theorem excessFromJdd_eq (P : Table) (T : Nat) (hne : P ≠ []) (hu : Uniform P T) (hn : (Dict.keys P).Nodup) :
    excessFromJdd P =
      if ∃ i ∈ List.range T, (P.filter fun kp => posAt i kp.1) ≠ [] ∧ mean P i = 0 then none
      else some ((List.range T).map (exTable P)) := by
  rw [excessFromJdd, averages_eq P T hne hu]
  show ((List.range T).map (mean P)).zipIdx.mapM _ = _
  rw [zipIdx_map_range, List.mapM_map]
  -- the loop now runs over `i < T`: bring round `i` into the shape "raise or append `exTable P i`" (`mapM_ite`)
  refine (congrArg (List.mapM · _) (funext fun i => ?_)).trans (mapM_ite _ (exTable P) _)
  show (if (P.filter fun kp => posAt i kp.1).isEmpty then some [] else if mean P i = 0 then none else
    some ((P.filter fun kp => posAt i kp.1).foldl _ [])) = _
  by_cases he : (P.filter fun kp => posAt i kp.1) = []
  · rw [if_pos (List.isEmpty_iff.2 he), if_neg fun h => h.1 he, exTable, he]; rfl
  · rw [if_neg (mt List.isEmpty_iff.1 he)]
    by_cases hm : mean P i = 0
    · rw [if_pos hm, if_pos ⟨he, hm⟩]
    · rw [if_neg hm, if_neg fun h => hm h.2]
      exact congrArg some (foldl_set_map _ (fun k : JD => k.modify i (· - 1)) _
        (by rw [Dict.keys_filter]; exact hn.filter _) (modify_pred_injOn_posAt P i))

theorem excessFromJdd_some {P : Table} {T : Nat} {qs : List Table} (hu : Uniform P T)
    (hn : (Dict.keys P).Nodup) (h : excessFromJdd P = some qs) :
    P ≠ [] ∧ qs = (List.range T).map (exTable P) ∧
      ∀ i, i < T → (P.filter fun kp => posAt i kp.1) ≠ [] → mean P i ≠ 0 := by
  have hne : P ≠ [] := by rintro rfl; cases h
  rw [excessFromJdd_eq P T hne hu hn] at h
  split at h
  · cases h
  · next hno => exact ⟨hne, (Option.some.inj h).symm, fun i hi he hm => hno ⟨i, List.mem_range.2 hi, he, hm⟩⟩

/-- when the code returns, a topology with mass at some key with `k[i] > 0` has a non-zero mean: there the
    code divided by it -/
theorem mean_ne_zero_of_massPos {P : Table} {T : Nat} {qs : List Table} (hu : Uniform P T)
    (hn : (Dict.keys P).Nodup) (h : excessFromJdd P = some qs) {i : Nat} (hi : i < T) (hz : massPos P i ≠ 0) :
    mean P i ≠ 0 :=
  (excessFromJdd_some hu hn h).2.2 i hi fun he => hz (by rw [massPos, he]; rfl)

theorem filter_posAt_ne_nil_iff (P : Table) (i : Nat) :
    (P.filter fun kp => posAt i kp.1) ≠ [] ↔ ∃ k ∈ Dict.keys P, k.getD i 0 > 0 := by
  rw [← List.length_pos_iff, List.length_pos_iff_exists_mem]
  constructor
  · rintro ⟨kp, h⟩
    exact ⟨kp.1, List.mem_map_of_mem (List.mem_filter.1 h).1, (posAt_iff i kp.1).1 (List.mem_filter.1 h).2⟩
  · rintro ⟨k, hk, hp⟩
    obtain ⟨kp, hkp, rfl⟩ := List.mem_map.1 hk
    exact ⟨kp, List.mem_filter.2 ⟨hkp, (posAt_iff i kp.1).2 hp⟩⟩

theorem mean_eq_filter (P : Table) (i : Nat) :
    mean P i = ((P.filter fun kp => posAt i kp.1).map fun kp => ((kp.1.getD i 0 : Nat) : Rat) * kp.2).sum := by
  rw [mean, Counters.sum_map_filter_eq_ite]
  refine congrArg List.sum (List.map_congr_left fun kp _ => ?_)
  split
  · rfl
  · next h => rw [Nat.eq_zero_of_not_pos (mt (posAt_iff i kp.1).2 h), Nat.cast_zero, zero_mul]

theorem get_exTable (P : Table) (i : Nat) (hn : (Dict.keys P).Nodup) (kp : JD × Rat) (hkp : kp ∈ P)
    (hpos : kp.1.getD i 0 > 0) :
    Dict.get (exTable P i) (kp.1.modify i (· - 1)) =
      some ((((kp.1.getD i 0 : Nat) : Rat) * kp.2) / mean P i) :=
  Dict.get_of_mem _ (nodup_keys_exTable P i hn) (_, _)
    (List.mem_map.2 ⟨kp, List.mem_filter.2 ⟨hkp, (posAt_iff i kp.1).2 hpos⟩, rfl⟩)

theorem mem_keys_exTable (P : Table) (i : Nat) (k' : JD) :
    k' ∈ Dict.keys (exTable P i) ↔ ∃ k ∈ Dict.keys P, k.getD i 0 > 0 ∧ k' = k.modify i (· - 1) := by
  rw [keys_exTable, List.mem_map]
  exact exists_congr fun k => by rw [List.mem_filter, posAt_iff, and_assoc, eq_comm]

/-- the normalising constant of `invert_single` -/
def bottomOf (q : Table) (i : Nat) : Rat :=
  (q.map fun kq => kq.2 / (((kq.1.getD i 0 + 1 : Nat)) : Rat)).sum

/-- the table built by `invert_single`, as a plain `map` -/
def invTable (q : Table) (i : Nat) : Table :=
  q.map fun kq => (kq.1.modify i (· + 1), (kq.2 / (((kq.1.getD i 0 + 1 : Nat)) : Rat)) / bottomOf q i)

theorem keys_invTable (q : Table) (i : Nat) :
    Dict.keys (invTable q i) = (Dict.keys q).map fun k => k.modify i (· + 1) :=
  Dict.keys_map q (fun k : JD => k.modify i (· + 1)) _

theorem nodup_keys_invTable (q : Table) (i : Nat) (hn : (Dict.keys q).Nodup) :
    (Dict.keys (invTable q i)).Nodup := by
  rw [keys_invTable]; exact hn.map fun _ _ => modify_succ_inj

theorem invertSingle_eq (q : Table) (i : Nat) (hn : (Dict.keys q).Nodup) :
    invertSingle q i =
      if q = [] then some [] else if bottomOf q i = 0 then none else some (invTable q i) := by
  rw [invertSingle, ← List.sum_eq_foldl]
  by_cases he : q = []
  · rw [if_pos (List.isEmpty_iff.2 he), if_pos he]
  · rw [if_neg (mt List.isEmpty_iff.1 he), if_neg he]
    refine if_congr Iff.rfl rfl (congrArg some ?_)
    exact foldl_set_map q (fun k : JD => k.modify i (· + 1)) _ hn fun _ _ _ _ => modify_succ_inj

/-- `P` restricted to the keys selected by `sel`, every mass divided by `z` -/
def restrictScale (P : Table) (sel : JD → Bool) (z : Rat) : Table :=
  (P.filter fun kp => sel kp.1).map fun kp => (kp.1, kp.2 / z)

theorem get_restrictScale (P : Table) (sel : JD → Bool) (z : Rat) (k : JD) :
    Dict.get (restrictScale P sel z) k = if sel k then (Dict.get P k).map (· / z) else none := by
  rw [restrictScale, Dict.get_map_val _ (fun _ v => v / z), Dict.get_filter]
  split <;> rfl

theorem keys_restrictScale (P : Table) (sel : JD → Bool) (z : Rat) :
    Dict.keys (restrictScale P sel z) = (Dict.keys P).filter sel := by
  rw [restrictScale, Dict.keys_map _ fun k : JD => k, List.map_id', Dict.keys_filter]

theorem mem_keys_restrictScale {P : Table} {sel : JD → Bool} {z : Rat} {k : JD} :
    k ∈ Dict.keys (restrictScale P sel z) ↔ k ∈ Dict.keys P ∧ sel k = true := by
  rw [keys_restrictScale, List.mem_filter]

theorem nodup_keys_restrictScale (P : Table) (sel : JD → Bool) (z : Rat) (hn : (Dict.keys P).Nodup) :
    (Dict.keys (restrictScale P sel z)).Nodup := by
  rw [keys_restrictScale]; exact hn.filter _

theorem sum_restrictScale (P : Table) (sel : JD → Bool) (z : Rat) :
    ((restrictScale P sel z).map (·.2)).sum = ((P.filter fun kp => sel kp.1).map (·.2)).sum / z := by
  rw [restrictScale, List.map_map, ← sum_map_div]; rfl

theorem cast_getD_of_posAt {P : Table} {i : Nat} {kp : JD × Rat} (h : kp ∈ P.filter fun kp => posAt i kp.1) :
    (((kp.1.modify i (· - 1)).getD i 0 + 1 : Nat) : Rat) = ((kp.1.getD i 0 : Nat) : Rat) ∧
      ((kp.1.getD i 0 : Nat) : Rat) ≠ 0 := by
  have hpos := (posAt_iff i kp.1).1 (List.mem_filter.1 h).2
  exact ⟨congrArg _ (getD_modify_pred kp.1 i hpos), Nat.cast_ne_zero.2 hpos.ne'⟩

theorem sum_exTable (P : Table) (i : Nat) (hm : mean P i ≠ 0) : ((exTable P i).map (·.2)).sum = 1 := by
  rw [exTable, List.map_map]
  rw [mean_eq_filter] at hm ⊢
  exact (sum_map_div ..).trans (div_self hm)

theorem bottomOf_exTable (P : Table) (i : Nat) :
    bottomOf (exTable P i) i = massPos P i / mean P i := by
  rw [bottomOf, exTable, List.map_map, massPos, ← sum_map_div]
  refine congrArg List.sum (List.map_congr_left fun kp hkp => ?_)
  obtain ⟨e, hne⟩ := cast_getD_of_posAt hkp
  rw [Function.comp, e, mul_div_assoc, mul_div_cancel_left₀ _ hne]

/-- inverting the `i`-th excess table gives `P` conditioned on `k[i] > 0` -/
theorem invTable_exTable (P : Table) (i : Nat) (hm : mean P i ≠ 0) :
    invTable (exTable P i) i = restrictScale P (posAt i) (massPos P i) := by
  rw [invTable, bottomOf_exTable, exTable, List.map_map, restrictScale]
  refine List.map_congr_left fun kp hkp => ?_
  obtain ⟨e, hne⟩ := cast_getD_of_posAt hkp
  rw [Function.comp, e, modify_pred_succ kp.1 i ((posAt_iff i kp.1).1 (List.mem_filter.1 hkp).2),
    mul_div_assoc, mul_div_cancel_left₀ _ hne, div_div_div_cancel_right₀ hm]

theorem invertSingle_exTable (P : Table) (i : Nat) (hn : (Dict.keys P).Nodup) (hm : mean P i ≠ 0)
    (hz : massPos P i ≠ 0) :
    invertSingle (exTable P i) i = some (restrictScale P (posAt i) (massPos P i)) := by
  rw [invertSingle_eq _ _ (nodup_keys_exTable P i hn), bottomOf_exTable, if_neg (div_ne_zero hz hm),
    invTable_exTable P i hm, if_neg]
  intro he
  rw [exTable, List.map_eq_nil_iff] at he
  rw [massPos, he] at hz
  exact hz rfl

theorem observations_eq (qks : List (String × Table)) (tbl : Nat → Table) (l : List (String × Nat))
    (h : ∀ nj ∈ l, ∃ q, Dict.get qks nj.1 = some q ∧ invertSingle q nj.2 = some (tbl nj.2)) :
    observations qks l = some (l.map fun nj => (nj.1, tbl nj.2)) := by
  induction l with
  | nil => rfl
  | cons x r ih =>
    obtain ⟨q, h1, h2⟩ := h x List.mem_cons_self
    simp only [observations, h1, h2, ih fun nj hnj => h nj (List.mem_cons_of_mem _ hnj), List.map_cons]

theorem mergeAll_eq (scaled : List (String × Table)) :
    mergeAll scaled = Dict.setAll [] (scaled.flatMap (·.2)) := by
  rw [mergeAll, Dict.setAll, List.foldl_flatMap]

theorem renormalise_eq (merged : Table) :
    renormalise merged =
      if merged = [] then some [] else
      if (merged.map (·.2)).sum = 0 then none else
      some (merged.map fun kv => (kv.1, kv.2 / (merged.map (·.2)).sum)) := by
  rw [renormalise, ← List.sum_eq_foldl]
  by_cases h : merged = []
  · rw [if_pos (List.isEmpty_iff.2 h), if_pos h]
  · rw [if_neg (mt List.isEmpty_iff.1 h), if_neg h]

theorem nodup_keys_mergeAll (scaled : List (String × Table)) : (Dict.keys (mergeAll scaled)).Nodup := by
  rw [mergeAll_eq]; exact Dict.nodup_keys_setAll _ [] List.nodup_nil

/-- some condition `sel j`, `(name, j) ∈ l`, holds of `k` -/
def anySel (sel : Nat → JD → Bool) (l : List (String × Nat)) (k : JD) : Bool := l.any fun nj => sel nj.2 k

theorem anySel_iff {sel : Nat → JD → Bool} {l : List (String × Nat)} {k : JD} :
    anySel sel l k = true ↔ ∃ nj ∈ l, sel nj.2 k = true := List.any_eq_true

/-- rescaling conditionals of one table: the observation of the reference topology has constant `z0`, every
    other one is multiplied by `(pc / z0) / (pc / z j)` and so gets the constant `z0` too -/
theorem scaleAll_restrict {P : Table} (sel : Nat → JD → Bool) (z : Nat → Rat) {ref : String} {common : JD}
    {pc z0 : Rat} (hc : Dict.get P common = some pc) (hpc : pc ≠ 0) (l : List (String × Nat))
    (hl : ∀ nj ∈ l, (nj.1 = ref → z nj.2 = z0) ∧ z nj.2 ≠ 0 ∧ sel nj.2 common = true) :
    scaleAll ref (pc / z0) common (l.map fun nj => (nj.1, restrictScale P (sel nj.2) (z nj.2))) =
      some (l.map fun nj => (nj.1, restrictScale P (sel nj.2) z0)) := by
  induction l with
  | nil => rfl
  | cons x r ih =>
    obtain ⟨h0, hz, hs⟩ := hl x List.mem_cons_self
    simp only [List.map_cons, scaleAll, ih fun nj hnj => hl nj (List.mem_cons_of_mem _ hnj)]
    by_cases hr : x.1 = ref
    · rw [if_pos hr, h0 hr]
    · have hg : Dict.get (restrictScale P (sel x.2) (z x.2)) common = some (pc / z x.2) := by
        rw [get_restrictScale, if_pos hs, hc]; rfl
      simp only [if_neg hr, hg, if_neg (div_ne_zero hpc hz)]
      refine congrArg (fun t => some ((x.1, t) :: _)) ?_
      rw [restrictScale, List.map_map]
      refine List.map_congr_left fun kp _ => Prod.ext rfl ?_
      show kp.2 / z x.2 * (pc / z0 / (pc / z x.2)) = kp.2 / z0
      rw [div_div_div_cancel_left' _ _ hpc, div_mul_div_cancel₀ hz]

section Conditionals
variable {P : Table} (hn : (Dict.keys P).Nodup) (sel : Nat → JD → Bool)
include hn

/-- merging conditionals of one table that share their constant gives the conditional on the union of the
    conditions: every entry written is `(k, P(k) / w)`, so overwriting does no harm -/
theorem get_mergeAll_restrict (w : Rat) (l : List (String × Nat)) (k : JD) :
    Dict.get (mergeAll (l.map fun nj => (nj.1, restrictScale P (sel nj.2) w))) k =
      Dict.get (restrictScale P (anySel sel l) w) k := by
  have hkeys : k ∈ Dict.keys (l.flatMap fun nj => restrictScale P (sel nj.2) w) ↔
      k ∈ Dict.keys (restrictScale P (anySel sel l) w) := by
    -- a key of one of the merged blocks is a key of `P` that one of the conditions accepts
    rw [Dict.keys, List.map_flatMap, List.mem_flatMap, mem_keys_restrictScale, anySel_iff]
    exact ⟨fun ⟨nj, hnj, h⟩ => ⟨(mem_keys_restrictScale.1 h).1, nj, hnj, (mem_keys_restrictScale.1 h).2⟩,
      fun ⟨hk, nj, hnj, h⟩ => ⟨nj, hnj, mem_keys_restrictScale.2 ⟨hk, h⟩⟩⟩
  have hval (s : JD → Bool) : ∀ x ∈ restrictScale P s w, x.2 = (Dict.get P x.1).getD 0 / w := fun x hx => by
    obtain ⟨kp, hkp, rfl⟩ := List.mem_map.1 hx
    rw [Dict.get_of_mem P hn kp (List.mem_filter.1 hkp).1]; rfl
  rw [mergeAll_eq, List.flatMap_map, Dict.get_setAll_of_agrees (fun k => (Dict.get P k).getD 0 / w) _ _
    fun x hx => (List.mem_flatMap.1 hx).elim fun nj h => hval _ x h.2]
  split
  · next h =>
    obtain ⟨v, hv⟩ := Option.isSome_iff_exists.1 ((Dict.get_isSome_iff_mem_keys ..).2 (hkeys.1 h))
    exact hv ▸ congrArg some (hval _ _ (Dict.mem_of_get hv)).symm
  · next h => exact ((Dict.get_eq_none_iff ..).2 (mt hkeys.2 h)).symm

/-- The inversion on observations that are conditionals of one table `P`: if observation `j` is `P`
    conditioned on `sel j` (with constant `z j ≠ 0`) and the common key has non-zero mass and satisfies
    every condition, then rescaling, merging and renormalising return `P` conditioned on the union of the
    conditions. -/
theorem jddFromExcess_of_conditionals (z : Nat → Rat) {qks : List (String × Table)} {names : List String}
    {common : JD} {pc : Rat} (hnames : names.Nodup) (hne : names ≠ [])
    (hobs : observations qks names.zipIdx =
      some (names.zipIdx.map fun nj => (nj.1, restrictScale P (sel nj.2) (z nj.2))))
    (hz : ∀ j, j < names.length → z j ≠ 0) (hc : Dict.get P common = some pc) (hpc : pc ≠ 0)
    (hsel : ∀ j, j < names.length → sel j common = true)
    (hZ : ((P.filter fun kp => anySel sel names.zipIdx kp.1).map (·.2)).sum ≠ 0) :
    ∃ R, jddFromExcess qks names common = some R ∧ (Dict.keys R).Nodup ∧
      ∀ k, Dict.get R k = Dict.get (restrictScale P (anySel sel names.zipIdx)
        ((P.filter fun kp => anySel sel names.zipIdx kp.1).map (·.2)).sum) k := by
  obtain ⟨n0, rest, rfl⟩ := List.exists_cons_of_ne_nil hne
  have hidx : ∀ nj ∈ (n0 :: rest).zipIdx, nj.2 < (n0 :: rest).length ∧ (nj.1 = n0 ↔ nj.2 = 0) := by
    intro nj hnj
    obtain ⟨hj, e⟩ := List.mem_zipIdx_iff_getElem?.1 hnj |> List.getElem?_eq_some_iff.1
    have h0 : (n0 :: rest)[nj.2] = (n0 :: rest)[0]'(Nat.succ_pos _) ↔ nj.2 = 0 := hnames.getElem_inj_iff
    exact ⟨hj, e ▸ h0⟩
  have hz0 := hz 0 (Nat.succ_pos _)
  have hbase : baseValue ((n0 :: rest).zipIdx.map fun nj => (nj.1, restrictScale P (sel nj.2) (z nj.2)))
      n0 common = some (pc / z 0) := by
    rw [List.zipIdx_cons, List.map_cons, baseValue, Dict.get, if_pos rfl]
    exact (get_restrictScale ..).trans (by rw [if_pos (hsel 0 (Nat.succ_pos _)), hc]; rfl)
  have hscale := scaleAll_restrict sel z (ref := n0) (z0 := z 0) hc hpc (n0 :: rest).zipIdx fun nj hnj =>
    ⟨fun e => by rw [(hidx nj hnj).2.1 e], hz _ (hidx nj hnj).1, hsel _ (hidx nj hnj).1⟩
  have hmerged := get_mergeAll_restrict hn sel (z 0) (n0 :: rest).zipIdx
  have hsum := (Dict.sum_eq_of_get_eq (nodup_keys_mergeAll _) (nodup_keys_restrictScale P _ (z 0) hn)
    hmerged).trans (sum_restrictScale ..)
  have htot := hsum ▸ div_ne_zero hZ hz0
  have hren := renormalise_eq (mergeAll ((n0 :: rest).zipIdx.map fun nj => (nj.1, restrictScale P (sel nj.2) (z 0))))
  rw [if_neg htot, if_neg fun h => htot (by rw [h]; rfl)] at hren
  refine ⟨_, by simp only [jddFromExcess, List.head?_cons, hobs, hbase, hscale]; exact hren, ?_, fun k => ?_⟩
  · rw [Dict.keys_map _ fun k : JD => k, List.map_id']; exact nodup_keys_mergeAll _
  · rw [Dict.get_map_val _ (fun _ v => v / _), hmerged k, hsum, get_restrictScale, get_restrictScale]
    split
    · rw [Option.map_map]
      exact congrArg (Option.map · _) (funext fun v => div_div_div_cancel_right₀ hz0 ..)
    · rfl

end Conditionals

/-- `R = P` conditioned on `s`, said the way `invert_of_excess` and `invert_excess` say it (values on the entries
    of `P`, key set); `c` is the proposition that `s` decides -/
theorem restrict_spec {P R : Table} {s : JD → Bool} {z : Rat} {c : JD → Prop} (hn : (Dict.keys P).Nodup)
    (hs : ∀ k ∈ Dict.keys P, s k = true ↔ c k)
    (hget : ∀ k, Dict.get R k = Dict.get (restrictScale P s z) k) :
    (∀ kp ∈ P, c kp.1 → Dict.get R kp.1 = some (kp.2 / z)) ∧
    (∀ k, k ∈ Dict.keys R ↔ k ∈ Dict.keys P ∧ c k) := by
  refine ⟨fun kp hkp hc => ?_, fun k => ?_⟩
  · rw [hget, get_restrictScale, if_pos ((hs _ (List.mem_map_of_mem hkp)).2 hc), Dict.get_of_mem P hn kp hkp]; rfl
  · rw [← Dict.get_isSome_iff_mem_keys, hget, Dict.get_isSome_iff_mem_keys, mem_keys_restrictScale]
    exact and_congr_right fun hk => hs k hk

theorem anyPos_iff (k : JD) : anyPos k = true ↔ ∃ i, k.getD i 0 > 0 := by
  rw [anyPos, List.any_eq_true]
  constructor
  · rintro ⟨d, hd, hpos⟩
    obtain ⟨i, hi, rfl⟩ := List.getElem_of_mem hd
    exact ⟨i, by rw [List.getD_eq_getElem?_getD, List.getElem?_eq_getElem hi]; exact of_decide_eq_true hpos⟩
  · rintro ⟨i, hpos⟩
    obtain ⟨x, hx, hx0, _⟩ := getD_pos hpos
    exact ⟨x, List.mem_of_getElem? hx, decide_eq_true hx0⟩

/-- on `T`-tuples, "positive in one of the `T` topologies" is "not zero" -/
theorem anySel_posAt_iff (names : List String) {k : JD} (hk : k.length = names.length) :
    anySel posAt names.zipIdx k = true ↔ ∃ i, k.getD i 0 > 0 := by
  rw [anySel_iff]
  constructor
  · rintro ⟨nj, _, h⟩; exact ⟨nj.2, (posAt_iff ..).1 h⟩
  · rintro ⟨i, hpos⟩
    obtain ⟨x, hx, _, _⟩ := getD_pos hpos
    have hi : i < names.length := hk ▸ (List.getElem?_eq_some_iff.1 hx).1
    exact ⟨(names[i], i), List.mem_zipIdx_iff_getElem?.2 (List.getElem?_eq_getElem hi), (posAt_iff ..).2 hpos⟩

theorem observations_excess (P : Table) (names : List String) (hn : (Dict.keys P).Nodup)
    (hnames : names.Nodup) (hmean : ∀ i, i < names.length → mean P i ≠ 0)
    (hZi : ∀ i, i < names.length → massPos P i ≠ 0) :
    observations (names.zip ((List.range names.length).map (exTable P))) names.zipIdx =
      some (names.zipIdx.map fun nj => (nj.1, restrictScale P (posAt nj.2) (massPos P nj.2))) := by
  refine observations_eq _ (fun j => restrictScale P (posAt j) (massPos P j)) _ fun nj hnj => ?_
  have hj := (List.getElem?_eq_some_iff.1 (List.mem_zipIdx_iff_getElem?.1 hnj)).1
  exact ⟨_, zip_map_range names _ ▸ get_zipIdx_map _ hnames hnj,
    invertSingle_exTable P nj.2 hn (hmean _ hj) (hZi _ hj)⟩

theorem mass_pos (P : Table) (hnn : ∀ kp ∈ P, 0 ≤ kp.2) (c : JD) (pc : Rat) (hc : (c, pc) ∈ P) (hpc : 0 < pc)
    (sel : JD → Bool) (hsel : sel c = true) : 0 < ((P.filter fun kp => sel kp.1).map (·.2)).sum := by
  have hm : (c, pc) ∈ P.filter fun kp => sel kp.1 := List.mem_filter.2 ⟨hc, hsel⟩
  exact lt_of_lt_of_le hpc (List.single_le_sum
    (List.forall_mem_map.2 fun kp hkp => hnn kp (List.mem_filter.1 hkp).1) _ (List.mem_map_of_mem hm))

theorem jddFromNetwork_eq (jds : List JD) :
    jddFromNetwork jds = Dict.tally id (fun _ => 1 / ((jds.length : Nat) : Rat)) [] jds := rfl

theorem mem_keys_jdd (jds : List JD) (k : JD) : k ∈ Dict.keys (jddFromNetwork jds) ↔ k ∈ jds := by
  rw [jddFromNetwork_eq, Dict.mem_keys_tally, List.map_id]; exact or_iff_left List.not_mem_nil

theorem cast_sum_map {α : Type} (l : List α) (f : α → Nat) :
    (((l.map f).sum : Nat) : Rat) = (l.map fun x => ((f x : Nat) : Rat)).sum :=
  (List.sum_map_hom l f (Nat.castAddMonoidHom Rat)).symm

theorem mean_jdd (jds : List JD) (i : Nat) :
    mean (jddFromNetwork jds) i =
      (((jds.map fun k => k.getD i 0).sum : Nat) : Rat) / ((jds.length : Nat) : Rat) := by
  rw [mean, jddFromNetwork_eq]
  refine (Dict.sum_map_tally id _ (fun (k : JD) v => ((k.getD i 0 : Nat) : Rat) * v) (fun _ _ _ => mul_add ..)
    jds []).trans ?_
  rw [List.map_nil, List.sum_nil, zero_add, cast_sum_map, ← sum_map_div]
  exact congrArg List.sum (List.map_congr_left fun k _ => mul_one_div ..)

/-- the stored entries `(a, ejk(a ++ b))` of row `a` -/
def rowEntries (ejk : Table) (rs : List JD) (a : JD) : Table :=
  rs.filterMap fun b => (Dict.get ejk (a ++ b)).map (a, ·)

/-- the table `get_excess_joint_distributions` builds for one matrix: every stored entry `ejk(a ++ b)` filed
    under its first half -/
def rowTable (ejk : Table) (ks : List JD) : Table :=
  Dict.tally (·.1) (·.2) [] (ks.flatMap (rowEntries ejk ks))

theorem excessFromEjk_loops (ejk : Table) (ls rs : List JD) (q : Table) :
    ls.foldl (fun q left => rs.foldl (fun q right =>
        match Dict.get ejk (left ++ right) with
        | some v => Dict.update q left 0 (· + v)
        | none => q) q) q = Dict.tally (·.1) (·.2) q (ls.flatMap (rowEntries ejk rs)) := by
  rw [Dict.tally, List.foldl_flatMap]
  refine congrArg (fun f => List.foldl f q ls) (funext fun q => funext fun a => ?_)
  rw [rowEntries, List.foldl_filterMap]
  refine congrArg (fun f => List.foldl f q rs) (funext fun q => funext fun b => ?_)
  cases Dict.get ejk (a ++ b) <;> rfl

theorem mem_rowEntries {ejk : Table} {rs : List JD} {a : JD} {x : JD × Rat} :
    x ∈ rowEntries ejk rs a ↔ x.1 = a ∧ ∃ b ∈ rs, Dict.get ejk (a ++ b) = some x.2 := by
  rw [rowEntries, List.mem_filterMap]
  exact ⟨fun ⟨b, hb, h⟩ => by obtain ⟨v, hv, rfl⟩ := Option.map_eq_some_iff.1 h; exact ⟨rfl, b, hb, hv⟩,
    fun ⟨e, b, hb, h⟩ => ⟨b, hb, by rw [h, ← e]; rfl⟩⟩

theorem sum_filterMap {α : Type} (l : List α) (h : α → Option Rat) :
    (l.filterMap h).sum = (l.map fun b => (h b).getD 0).sum := by
  induction l with
  | nil => rfl
  | cons b l ih =>
    rw [List.filterMap_cons, List.map_cons, List.sum_cons, ← ih]
    cases h b with
    | none => exact (zero_add _).symm
    | some v => exact List.sum_cons

theorem get_rowTable (ejk : Table) (ks : List JD) (a : JD) (hn : ks.Nodup) :
    Dict.get (rowTable ejk ks) a =
      if a ∈ ks ∧ ∃ b ∈ ks, a ++ b ∈ Dict.keys ejk then
        some (ks.map fun b => (Dict.get ejk (a ++ b)).getD 0).sum
      else none := by
  rw [rowTable, Dict.get_tally, List.filter_flatMap_key (·.1) hn fun _ _ _ hx => (mem_rowEntries.1 hx).1]
  refine Counters.ite_some_congr ?_ fun h => ?_
  · rw [List.mem_map]
    constructor
    · rintro (⟨x, hx, rfl⟩ | h)
      · obtain ⟨a', ha', hx⟩ := List.mem_flatMap.1 hx
        obtain ⟨rfl, b, hb, hg⟩ := mem_rowEntries.1 hx
        exact ⟨ha', b, hb, Dict.mem_keys_of_mem (Dict.mem_of_get hg)⟩
      · cases h
    · rintro ⟨ha, b, hb, hk⟩
      obtain ⟨v, hv⟩ := Option.isSome_iff_exists.1 ((Dict.get_isSome_iff_mem_keys ..).2 hk)
      exact Or.inl ⟨(a, v), List.mem_flatMap.2 ⟨a, ha, mem_rowEntries.2 ⟨rfl, b, hb, hv⟩⟩, rfl⟩
  · rw [if_pos h.1, rowEntries, List.map_filterMap, sum_filterMap]
    exact (zero_add _).trans (congrArg List.sum (List.map_congr_left fun b _ => by
      cases Dict.get ejk (a ++ b) <;> rfl))

/-- `get_excess_joint_distributions`: unless the lengths differ or a name has no key list (`KeyError`), one
    table of row sums per matrix -/
theorem excessFromEjk_eq (ejks : List (String × Table)) (keys : List (String × List JD))
    (h : ejks.length = keys.length) :
    excessFromEjk ejks keys =
      if ∃ ne ∈ ejks, Dict.get keys ne.1 = none then none
      else some (ejks.map fun ne => (ne.1, rowTable ne.2 ((Dict.get keys ne.1).getD []))) := by
  rw [excessFromEjk, if_neg (not_not.2 h)]
  -- bring the round for one matrix into the shape "raise (no key list) or append its `rowTable`" (`mapM_ite`)
  refine (congrArg (List.mapM · ejks) (funext fun ne => ?_)).trans (mapM_ite _ _ _)
  cases hg : Dict.get keys ne.1 with
  | none => exact (congrArg (· >>= _) hg).trans (if_pos rfl).symm
  | some ks =>
    rw [if_neg (Option.some_ne_none ks), Option.getD_some, rowTable, ← excessFromEjk_loops]
    exact congrArg (· >>= _) hg

theorem sum_map_getD_get (d : Table) (hn : (Dict.keys d).Nodup) (K : List JD) (hK : K.Nodup) :
    (K.map fun k => (Dict.get d k).getD 0).sum = ((d.filter fun kv => decide (kv.1 ∈ K)).map (·.2)).sum := by
  induction d with
  | nil => exact List.sum_eq_zero fun x hx => by obtain ⟨k, _, rfl⟩ := List.mem_map.1 hx; rfl
  | cons x d ih =>
    obtain ⟨hx, hd⟩ := List.nodup_cons.1 hn
    rw [Counters.sum_map_filter_eq_ite, List.map_cons, List.sum_cons, ← Counters.sum_map_filter_eq_ite, ← ih hd]
    -- the first entry is found at most once, and only under its own key
    have : ∀ k ∈ K, (Dict.get (x :: d) k).getD 0 = (if k == x.1 then x.2 else 0) + (Dict.get d k).getD 0 := by
      intro k _
      rw [Dict.get]
      by_cases e : x.1 = k
      · rw [if_pos e, ← e, if_pos (beq_self_eq_true _), (Dict.get_eq_none_iff d x.1).2 hx]; exact (add_zero _).symm
      · rw [if_neg e, if_neg (mt beq_iff_eq.1 (Ne.symm e))]; exact (zero_add _).symm
    rw [List.map_congr_left this, List.sum_map_add, Counters.sum_map_ite_const, ← List.count_eq_countP]
    congr 1
    split
    · next h => rw [List.count_eq_one_of_mem hK (of_decide_eq_true h), one_nsmul]
    · next h => rw [List.count_eq_zero.2 (mt decide_eq_true h), zero_nsmul]

end Gcmpy.Algebra
