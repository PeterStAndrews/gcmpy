import GcmpyModel.Lemmas.Dict
import Mathlib.Algebra.BigOperators.Group.List.Basic
/-!
The accumulating loop `for x in l: d[key x] = d.get(key x, 0) + w x`: `collections.Counter`, histograms,
weighted tallies.  Three facts: which keys it has, what it stores (the start value plus the weights of
the items with that key), and that any quantity additive in the values grows by its total over the items.
Then (`namespace Gcmpy.Counters`) counters, tallies in which every item weighs the same, and the sums over `if`
that count with them.
-/
namespace Gcmpy.Dict
variable {κ ν α M : Type} [DecidableEq κ]

abbrev tally [Zero ν] [Add ν] (key : α → κ) (w : α → ν) (d : List (κ × ν)) (l : List α) :
    List (κ × ν) :=
  l.foldl (fun d x => update d (key x) 0 (· + w x)) d

section
variable [AddCommMonoid ν] (key : α → κ) (w : α → ν)

theorem tally_cons (d : List (κ × ν)) (x : α) (l : List α) :
    tally key w d (x :: l) = tally key w (update d (key x) 0 (· + w x)) l := rfl

theorem keys_tally (l : List α) (d : List (κ × ν)) :
    keys (tally key w d l) = (l.map key).foldl addKey (keys d) := by
  induction l generalizing d with
  | nil => rfl
  | cons x xs ih => rw [tally_cons, ih, keys_update]; rfl

theorem mem_keys_tally (l : List α) (d : List (κ × ν)) (k : κ) :
    k ∈ keys (tally key w d l) ↔ k ∈ l.map key ∨ k ∈ keys d := by
  rw [keys_tally, mem_foldl_addKey, or_comm]

theorem nodup_keys_tally {l : List α} {d : List (κ × ν)} (h : (keys d).Nodup) :
    (keys (tally key w d l)).Nodup :=
  keys_tally key w l d ▸ nodup_foldl_addKey h

theorem getD_tally (l : List α) (d : List (κ × ν)) (k : κ) :
    (get (tally key w d l) k).getD 0 = (get d k).getD 0 + ((l.filter (key · = k)).map w).sum := by
  induction l generalizing d with
  | nil => simp
  | cons x xs ih =>
    rw [tally_cons, ih, get_update, List.filter_cons]
    by_cases h : key x = k
    · simp [h, add_assoc]
    · simp [h]

theorem get_tally (l : List α) (d : List (κ × ν)) (k : κ) :
    get (tally key w d l) k =
      if k ∈ l.map key ∨ k ∈ keys d then
        some ((get d k).getD 0 + ((l.filter (key · = k)).map w).sum)
      else none := by
  split
  · next h => rw [get_getD_of_mem_keys 0 ((mem_keys_tally key w l d k).2 h), getD_tally]
  · next h => exact (get_eq_none_iff _ _).2 fun hm => h ((mem_keys_tally key w l d k).1 hm)

end

/-- `count` and `∈` are taken with any lawful `BEq`, so that the statement meets whichever instance the caller's
    `List.count` was elaborated with (`List.instBEq` for tuples, not the one derived from `DecidableEq`). -/
theorem get_tally_count [AddCommMonoid ν] [BEq α] [LawfulBEq α] (key : α → κ) (c : ν) (l : List α) (x : α)
    (hinj : ∀ y ∈ l, key y = key x → y = x) :
    get (tally key (fun _ => c) [] l) (key x) = if x ∈ l then some (l.count x • c) else none := by
  have hf : l.filter (key · = key x) = l.filter (· == x) :=
    List.filter_congr fun y hy => by
      rw [Bool.eq_iff_iff, decide_eq_true_eq, beq_iff_eq]; exact ⟨hinj y hy, congrArg key⟩
  have hm : key x ∈ l.map key ∨ key x ∈ keys ([] : List (κ × ν)) ↔ x ∈ l :=
    ⟨fun h => by
      obtain ⟨y, hy, e⟩ := List.mem_map.1 (h.resolve_right List.not_mem_nil)
      exact hinj y hy e ▸ hy, fun h => Or.inl (List.mem_map_of_mem h)⟩
  rw [get_tally, hf, List.map_const', List.sum_replicate, ← List.count_eq_length_filter, get_nil,
    Option.getD_none, zero_add]
  by_cases hx : x ∈ l
  · rw [if_pos (hm.2 hx), if_pos hx]
  · rw [if_neg (mt hm.1 hx), if_neg hx]

section
variable [AddCommMonoid ν] [AddCommMonoid M] (key : α → κ) (w : α → ν)
  (φ : κ → ν → M) (hadd : ∀ k a b, φ k (a + b) = φ k a + φ k b)
include hadd

theorem sum_map_update_add (d : List (κ × ν)) (k : κ) (c : ν) :
    ((update d k 0 (· + c)).map fun p => φ p.1 p.2).sum = (d.map fun p => φ p.1 p.2).sum + φ k c := by
  unfold update
  induction d with
  | nil => simp [set_nil, get_nil]
  | cons x r ih =>
    rw [set_cons, get_cons]
    by_cases h : x.1 = k
    · subst h; simp [hadd, add_right_comm]
    · simp only [if_neg h, List.map_cons, List.sum_cons, ih, add_assoc]

theorem sum_map_tally (l : List α) (d : List (κ × ν)) :
    ((tally key w d l).map fun p => φ p.1 p.2).sum =
      (d.map fun p => φ p.1 p.2).sum + (l.map fun x => φ (key x) (w x)).sum := by
  induction l generalizing d with
  | nil => simp
  | cons x xs ih =>
    rw [tally_cons, ih, sum_map_update_add φ hadd, List.map_cons, List.sum_cons, add_assoc]

end

theorem sum_eq_of_get_eq [AddCommMonoid ν] {d₁ d₂ : List (κ × ν)} (h₁ : (keys d₁).Nodup)
    (h₂ : (keys d₂).Nodup) (h : ∀ k, get d₁ k = get d₂ k) : (d₁.map (·.2)).sum = (d₂.map (·.2)).sum :=
  ((perm_of_get_eq h₁ h₂ h).map _).sum_eq

end Gcmpy.Dict

namespace Gcmpy.Counters
open Gcmpy
variable {κ ν α : Type} [DecidableEq κ] [AddCommMonoid ν]

/-- comparing two lookups written as `if present then some value else none`.  The `Decidable` arguments are
    plain implicit ones: `k ∈ l` is decided through `DecidableEq` in the dictionary library and through
    `List.instBEq` where a statement about tuples is elaborated, and `if_congr` insists on its own choice. -/
theorem ite_some_congr {b c : Prop} {_ : Decidable b} {_ : Decidable c} {x y : α} (h : b ↔ c) (hx : c → x = y) :
    (if b then some x else none) = if c then some y else none :=
  if_ctx_congr h (fun hc => congrArg some (hx hc)) fun _ => rfl

theorem sum_map_filter_eq_ite (l : List α) (p : α → Bool) (f : α → ν) :
    ((l.filter p).map f).sum = (l.map fun x => if p x then f x else 0).sum := by
  have h := List.sum_map_ite (fun a => p a = true) f (fun _ => 0) l
  simp only [List.map_const', List.sum_replicate, nsmul_zero, add_zero, Bool.decide_eq_true] at h
  exact h.symm

theorem sum_map_ite_const (l : List α) (p : α → Bool) (w : ν) :
    (l.map fun x => if p x then w else 0).sum = l.countP p • w := by
  rw [← sum_map_filter_eq_ite, List.map_const', List.sum_replicate, List.countP_eq_length_filter]

theorem sum_tally_count (key : α → κ) (w : ν) (l : List α) :
    ((Dict.tally key (fun _ => w) [] l).map (·.2)).sum = l.length • w := by
  refine (Dict.sum_map_tally key _ (fun _ v => v) (fun _ _ _ => rfl) l []).trans ?_
  rw [List.map_const', List.sum_replicate]
  exact zero_add _

theorem sum_filter_tally_count (P : κ → Bool) (key : α → κ) (w : ν) (l : List α) :
    (((Dict.tally key (fun _ => w) [] l).filter fun kv => P kv.1).map (·.2)).sum =
      l.countP (fun y => P (key y)) • w := by
  rw [sum_map_filter_eq_ite]
  refine (Dict.sum_map_tally key _ (fun k v => if P k then v else 0) (fun k a b => ?_) l []).trans ?_
  · split
    · rfl
    · exact (add_zero 0).symm
  · rw [sum_map_ite_const]; exact zero_add _

end Gcmpy.Counters
