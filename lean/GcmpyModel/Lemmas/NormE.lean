import GcmpyModel.Model.Graph
namespace Gcmpy.Graph

theorem normE_of_le {a b : Nat} (h : a ≤ b) : normE (a, b) = (a, b) := by
  simp only [normE, Nat.min_eq_left h, Nat.max_eq_right h]

theorem normE_comm (a b : Nat) : normE (a, b) = normE (b, a) := by
  simp only [normE, Nat.min_comm, Nat.max_comm]

theorem normE_of_ge {a b : Nat} (h : b ≤ a) : normE (a, b) = (b, a) :=
  (normE_comm a b).trans (normE_of_le h)

theorem normE_cases (a b : Nat) : normE (a, b) = (a, b) ∨ normE (a, b) = (b, a) :=
  (Nat.le_total a b).imp normE_of_le normE_of_ge

theorem normE_normE (e : Edge) : normE (normE e) = normE e :=
  normE_of_le (Nat.le_trans (Nat.min_le_left ..) (Nat.le_max_left ..))

theorem normE_eq_iff {a b c d : Nat} :
    normE (a, b) = normE (c, d) ↔ (a = c ∧ b = d) ∨ (a = d ∧ b = c) := by
  constructor
  · intro h
    rcases normE_cases a b with h1 | h1 <;> rcases normE_cases c d with h2 | h2 <;>
      rw [h1, h2, Prod.mk.injEq] at h
    · exact Or.inl h
    · exact Or.inr h
    · exact Or.inr ⟨h.2, h.1⟩
    · exact Or.inl ⟨h.2, h.1⟩
  · rintro (⟨rfl, rfl⟩ | ⟨rfl, rfl⟩)
    · rfl
    · exact normE_comm ..

theorem normE_inj_left {u a b : Nat} (h : normE (u, a) = normE (u, b)) : a = b := by
  rcases normE_eq_iff.1 h with h | h <;> omega

theorem touch_normE {a b v : Nat} : ((normE (a, b)).1 = v ∨ (normE (a, b)).2 = v) ↔ (a = v ∨ b = v) := by
  rcases normE_cases a b with h | h <;> rw [h]
  exact or_comm

theorem normE_loop_iff {a b : Nat} : (normE (a, b)).1 = (normE (a, b)).2 ↔ a = b := by
  rcases normE_cases a b with h | h <;> rw [h]
  exact eq_comm

end Gcmpy.Graph
