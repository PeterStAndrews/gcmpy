import Mathlib.Algebra.BigOperators.Group.List.Basic
import Mathlib.Algebra.BigOperators.Intervals
import Mathlib.Data.List.Nodup
import Mathlib.Data.List.GetD
import Mathlib.Data.List.Perm.Basic
import GcmpyModel.Model.ClosedForms
import GcmpyModel.Lemmas.AutomatedExact
/-
Reading the model of `number_connected_graphs.py` and of the two equations (`Model/ClosedForms.lean`) back into
mathematics: the bottom-up memo tables `qTable`, `qTableGen` return, at row `n + 1`, the recursion step applied to the
rows `1 … n` (`Q_succ_eq_qEntry`, `Qgen_succ_eq_qEntryGen`); the edges of `completeGraph n` are the pairs `a < b < n`;
the model's `for … in range(n)` accumulations are finite sums (`foldl_add_range`, `foldl_sub_range`, `sum_range_sub`).
-/
namespace Gcmpy.ClosedForms
open Gcmpy Gcmpy.Graph Gcmpy.Automated

/-- every term is `(τ − r) + (r − 1 − v)`: a constant plus a reflected Gauss sum -/
theorem sum_range_sub (tau r : Nat) (h : r ≤ tau) :
    ((List.range r).map fun v => tau - (v + 1)).sum = r * (tau - r) + r * (r - 1) / 2 := by
  -- `((List.range r).map f).sum` is `∑ v ∈ Finset.range r, f v` by definition
  show ∑ v ∈ Finset.range r, (tau - (v + 1)) = _
  rw [Finset.sum_congr rfl (g := fun v => (tau - r) + (r - 1 - v))
      (fun v hv => by have := Finset.mem_range.1 hv; omega),
    Finset.sum_add_distrib, Finset.sum_const, Finset.card_range, nsmul_eq_mul, Nat.cast_id,
    Finset.sum_range_reflect (fun v => v) r, Finset.sum_range_id]

section table
variable {α : Type} {t : Nat → List α} {row : Nat → α}

theorem length_of_append_chain (h0 : t 0 = []) (hs : ∀ n, t (n + 1) = t n ++ [row n]) : ∀ n, (t n).length = n
  | 0 => by rw [h0]; rfl
  | n+1 => by rw [hs, List.length_append, length_of_append_chain h0 hs n]; rfl

theorem getD_of_append_chain (h0 : t 0 = []) (hs : ∀ n, t (n + 1) = t n ++ [row n]) (d : α) {n m i : Nat}
    (hi : i < n) (hnm : n ≤ m) : (t m).getD i d = (t n).getD i d := by
  induction m, hnm using Nat.le_induction with
  | base => rfl
  | succ m hm ih =>
    rw [hs, List.getD_append _ _ _ _ (by rw [length_of_append_chain h0 hs]; omega), ih]

theorem getD_last_row (h0 : t 0 = []) (hs : ∀ n, t (n + 1) = t n ++ [row n]) (d : α) (n : Nat) :
    (t (n + 1)).getD n d = row n := by
  have hl := length_of_append_chain h0 hs n
  rw [hs, List.getD_append_right _ _ _ _ (by rw [hl]), hl, Nat.sub_self]
  rfl

end table

theorem qTable_succ (n : Nat) : qTable (n + 1) = qTable n ++ [qRow (qTable n) (n + 1)] := rfl

theorem qTableGen_succ (n : Nat) : qTableGen (n + 1)
    = qTableGen n ++ [(List.range ((n+1) * n / 2 + 1)).map (qEntryGen (qTableGen n) (n+1))] := rfl

theorem qTable_length (n : Nat) : (qTable n).length = n := length_of_append_chain rfl qTable_succ n

theorem qTableGen_length (n : Nat) : (qTableGen n).length = n := length_of_append_chain rfl qTableGen_succ n

theorem qTable_getD_of_le {n m i : Nat} (hi : i < n) (hnm : n ≤ m) :
    (qTable m).getD i [] = (qTable n).getD i [] := getD_of_append_chain rfl qTable_succ [] hi hnm

theorem qTableGen_getD_of_le {n m i : Nat} (hi : i < n) (hnm : n ≤ m) :
    (qTableGen m).getD i [] = (qTableGen n).getD i [] := getD_of_append_chain rfl qTableGen_succ [] hi hnm

theorem getD_map_range {α : Type} (f : Nat → α) (d : α) (N k : Nat) :
    ((List.range N).map f).getD k d = if k < N then f k else d := by
  split <;> rename_i h <;> simp [List.getD_eq_getElem?_getD, h]

theorem qEntry_eq_zero {rows : List (List Int)} {n k : Nat} (h : k < n - 1 ∨ k > n * (n - 1) / 2) :
    qEntry rows n k = 0 := by
  unfold qEntry; simp only [h, if_true]

theorem qEntryGen_eq_zero {rows : List (List Int)} {n k : Nat} (h : k < n - 1 ∨ k > n * (n - 1) / 2) :
    qEntryGen rows n k = 0 := by
  unfold qEntryGen; simp only [h, if_true]

theorem Q_succ_eq_qEntry (n k : Nat) : Q (n + 1) k = qEntry (qTable n) (n + 1) k := by
  unfold Q
  rw [if_neg (Nat.succ_ne_zero n), Nat.add_sub_cancel, getD_last_row rfl qTable_succ]
  unfold qRow
  rw [getD_map_range]
  split
  · rfl
  · exact (qEntry_eq_zero (Or.inr (by omega))).symm

theorem Qgen_succ_eq_qEntryGen (n k : Nat) : Qgen (n + 1) k = qEntryGen (qTableGen n) (n + 1) k := by
  unfold Qgen
  rw [Nat.add_sub_cancel, getD_last_row rfl qTableGen_succ, getD_map_range]
  split
  · rfl
  · exact (qEntryGen_eq_zero (Or.inr (by simp only [Nat.add_sub_cancel]; omega))).symm

theorem mem_completeGraph_edges {n a b : Nat} : (a, b) ∈ (completeGraph n).edges ↔ a < b ∧ b < n := by
  simp only [completeGraph, List.mem_flatMap, List.mem_map, List.mem_filter, List.mem_range,
    decide_eq_true_eq, Prod.mk.injEq]
  constructor
  · rintro ⟨a', _, b', ⟨hb, hab⟩, rfl, rfl⟩; exact ⟨hab, hb⟩
  · rintro ⟨hab, hb⟩; exact ⟨a, by omega, b, ⟨hb, hab⟩, rfl, rfl⟩

theorem completeGraph_edges_nodup (n : Nat) : (completeGraph n).edges.Nodup := by
  unfold completeGraph
  rw [List.nodup_flatMap]
  refine ⟨fun a _ => (List.nodup_range.filter _).map fun b b' h => (Prod.mk.inj h).2, ?_⟩
  refine (List.nodup_range (n := n)).imp ?_
  intro a a' hne
  simp only [Function.onFun]
  intro e h1 h2
  obtain ⟨b, _, rfl⟩ := List.mem_map.1 h1
  obtain ⟨b', _, h⟩ := List.mem_map.1 h2
  exact hne (Prod.mk.inj h).1.symm

theorem completeGraph_lt {n : Nat} : ∀ e ∈ (completeGraph n).edges, e.1 < e.2 ∧ e.2 < n :=
  fun _ he => mem_completeGraph_edges.1 he

theorem completeGraph_wf (n : Nat) : WFGraph (completeGraph n).edges (List.range n) := wf_of_lt completeGraph_lt

theorem length_filter_combinations {α : Type} (k : Nat) (l : List α) (p : List α → Bool) :
    ((combinations k l).filter p).length = ((sublists l).filter fun s => s.length = k ∧ p s).length := by
  rw [((combinations_perm_filter l k).filter p).length_eq, List.filter_filter]
  congr 1
  apply List.filter_congr; intro s _
  simp [Bool.and_comm]

theorem foldl_add_range {R : Type} [AddCommMonoid R] (f : Nat → R) (a : R) (n : Nat) :
    (List.range n).foldl (fun acc i => acc + f i) a = a + ∑ i ∈ Finset.range n, f i :=
  foldl_add_eq_sum f (List.range n) a

theorem foldl_sub_range (f : Nat → Int) (a : Int) (n : Nat) :
    (List.range n).foldl (fun acc i => acc - f i) a = a - ∑ i ∈ Finset.range n, f i := by
  simp only [sub_eq_add_neg, ← Finset.sum_neg_distrib]
  exact foldl_add_eq_sum (fun i => -f i) (List.range n) a

end Gcmpy.ClosedForms
