import GcmpyModel.Properties.C07Splits
import GcmpyModel.Properties.C06Ingredients
import GcmpyModel.Lemmas.ListFacts
import Mathlib.Algebra.BigOperators.Ring.List
/-!
Lemmas for property C07 (`JointDegreeSplitDegree`, `JointDegreeDelta`; model `GcmpyModel/Model/SplitDegree.lean`).
Both loaders run `for k in range(lo, hi)`, each round writing the rows of overall degree `k`, and normalise the
result.  The loop is one `Dict.setAll` over all classes (`foldlM_setAll`); the classes are disjoint, so it appends
them.  What is proved about either loader is proved once, about such a table assembled class by class (`Classes`).
-/
namespace Gcmpy.SplitDegree
open Gcmpy Gcmpy.Loaders

theorem edgesOf_pure (k n : Nat) : edgesOf (k :: List.replicate n 0) = k := by
  have h : ∀ s, (((List.replicate n 0).zipIdx s).map fun (p : Nat × Nat) => (p.2 + 1) * p.1).sum = 0 := by
    induction n with
    | zero => simp
    | succ n ih => intro s; simp [List.replicate_succ, ih]
  simp [edgesOf, h 1]

theorem length_pure (k n : Nat) : (k :: List.replicate n 0).length = n + 1 := by simp

theorem validSplits_ne_nil (k t : Nat) (ht : 1 ≤ t) : validSplits k t ≠ [] :=
  List.ne_nil_of_mem <| validSplits_complete (jd := k :: List.replicate (t - 1) 0) ht
    (by rw [length_pure]; omega) (edgesOf_pure k _)

/-- `W k`: the total (unnormalised) weight of the splits of `k` -/
def splitTotal (probs : List Rat) (k : Nat) : Rat :=
  ((validSplits k probs.length).map (splitWeight probs)).sum

/-- the rows `resolve_degree(k, w)` writes: every split of `k` with its normalised weight times `w` -/
def splitRows (probs : List Rat) (w : Rat) (k : Nat) : Table :=
  (validSplits k probs.length).map fun jd => (jd, w * (splitWeight probs jd / splitTotal probs k))

theorem resolve_eq {probs : List Rat} {k : Nat} {w : Rat} {table : Table} (ht : 1 ≤ probs.length) :
    resolve probs k w table =
      if splitTotal probs k = 0 then .error .zeroDivision
      else .ok ((validSplits k probs.length).foldl
        (fun t jd => Dict.set t jd (w * (splitWeight probs jd / splitTotal probs k))) table) := by
  have : (validSplits k probs.length).isEmpty = false := by
    simpa [List.isEmpty_iff] using validSplits_ne_nil k probs.length ht
  simp only [resolve, this, ← List.sum_eq_foldl, Bool.false_eq_true, if_false]
  rw [← List.map_prod_left_eq_zip, List.foldl_map]
  rfl

theorem splitRows_keys (probs : List Rat) (w : Rat) (k : Nat) :
    Dict.keys (splitRows probs w k) = validSplits k probs.length :=
  List.map_map.trans (List.map_id _)

theorem splitRows_edges (probs : List Rat) (w : Rat) (k : Nat) :
    ∀ p ∈ splitRows probs w k, edgesOf p.1 = k := fun _ hp =>
  (validSplits_sound (splitRows_keys probs w k ▸ Dict.mem_keys_of_mem hp)).2

theorem splitRows_nodup (probs : List Rat) (w : Rat) (k : Nat) :
    (Dict.keys (splitRows probs w k)).Nodup :=
  splitRows_keys probs w k ▸ validSplits_nodup _ _

theorem splitRows_sum (probs : List Rat) (w : Rat) (k : Nat) (hW : splitTotal probs k ≠ 0) :
    ((splitRows probs w k).map (·.2)).sum = w := by
  rw [splitRows, List.map_map]
  -- `Σ w · (wᵢ / W) = w · ((Σ wᵢ) / W) = w`
  show ((validSplits k probs.length).map fun jd => w * (splitWeight probs jd / splitTotal probs k)).sum = w
  rw [List.sum_map_mul_left, sum_map_div, ← splitTotal, div_self hW, mul_one]

theorem resolve_ok_setAll {probs : List Rat} {k : Nat} {w : Rat} {table table' : Table}
    (ht : 1 ≤ probs.length) (h : resolve probs k w table = .ok table') :
    splitTotal probs k ≠ 0 ∧ table' = Dict.setAll table (splitRows probs w k) := by
  rw [resolve_eq ht] at h
  split at h
  · cases h
  · next hz => cases h; exact ⟨hz, Dict.foldl_set_eq_setAll (fun jd => jd) _ _ _⟩

/-- `rows` holds distinct keys, all of overall degree `k`, with total mass `m` -/
structure IsClass (rows : Table) (k : Nat) (m : Rat) : Prop where
  edges : ∀ p ∈ rows, edgesOf p.1 = k
  keys_nodup : (Dict.keys rows).Nodup
  mass : (rows.map (·.2)).sum = m

theorem isClass_splitRows {probs : List Rat} {w : Rat} {k : Nat} (hW : splitTotal probs k ≠ 0) :
    IsClass (splitRows probs w k) k w :=
  ⟨splitRows_edges probs w k, splitRows_nodup probs w k, splitRows_sum probs w k hW⟩

theorem isClass_pure (k n : Nat) (w : Rat) : IsClass [(k :: List.replicate n 0, w)] k w :=
  ⟨fun p hp => by rw [List.mem_singleton.1 hp]; exact edgesOf_pure k n, List.nodup_singleton _, by simp⟩

theorem flatMap_keys_nodup {F : Nat → Table} {fp : Nat → Rat} {ks : List Nat} (hn : ks.Nodup)
    (hc : ∀ k ∈ ks, IsClass (F k) k (fp k)) : (Dict.keys (ks.flatMap F)).Nodup := by
  rw [Dict.keys, List.map_flatMap, List.nodup_flatMap]
  refine ⟨fun k hk => (hc k hk).keys_nodup, hn.imp_of_mem fun {a b} ha hb hne x hx hy => ?_⟩
  obtain ⟨p, hp, rfl⟩ := List.mem_map.1 hx
  obtain ⟨q, hq, hpq⟩ := List.mem_map.1 hy
  exact hne (((hc a ha).edges p hp).symm.trans (hpq ▸ (hc b hb).edges q hq))

/-- `T` is the normalised concatenation of the tables `F k`, `k ∈ ks`, where `F k` is the class of degree `k`
    with total mass `fp k` -/
structure Classes (F : Nat → Table) (fp : Nat → Rat) (ks : List Nat) (T : Table) : Prop where
  nodup : ks.Nodup
  cls : ∀ k ∈ ks, IsClass (F k) k (fp k)
  ok : normalise (ks.flatMap F) = .ok T

namespace Classes
variable {F : Nat → Table} {fp : Nat → Rat} {ks : List Nat} {T : Table} (c : Classes F fp ks T)
include c

theorem total : ((ks.flatMap F).map (·.2)).sum = (ks.map fp).sum := by
  rw [List.map_flatMap, List.flatMap_def, List.sum_flatten, List.map_map]
  exact congrArg _ (List.map_congr_left fun k hk => (c.cls k hk).mass)

theorem eq : T = (ks.flatMap F).map fun p => (p.1, p.2 / (ks.map fp).sum) :=
  c.total ▸ (normalise_ok_iff.1 c.ok).2

theorem keys : T.map (·.1) = ks.flatMap fun k => Dict.keys (F k) :=
  (normalise_keys c.ok).trans List.map_flatMap

theorem filter_class {k : Nat} (hk : k ∈ ks) : (ks.flatMap F).filter (fun p => edgesOf p.1 = k) = F k :=
  (List.filter_flatMap_key (fun p : JD × Rat => edgesOf p.1) c.nodup (fun k hk => (c.cls k hk).edges) k).trans
    (if_pos hk)

theorem class_mass {k : Nat} (hk : k ∈ ks) :
    ((T.filter (fun p => edgesOf p.1 = k)).map (·.2)).sum = fp k / (ks.map fp).sum := by
  have hT : T.filter (fun p => edgesOf p.1 = k) = (F k).map fun p => (p.1, p.2 / (ks.map fp).sum) := by
    rw [c.eq, List.filter_map, ← c.filter_class hk]; rfl
  rw [hT, List.map_map]
  exact (sum_map_div (F k) (·.2) _).trans (congrArg (· / _) (c.cls k hk).mass)

theorem keys_nodup : (T.map (·.1)).Nodup :=
  normalise_keys c.ok ▸ flatMap_keys_nodup c.nodup c.cls

theorem get {k : Nat} (hk : k ∈ ks) {jd : JD} {v : Rat} (hv : (jd, v) ∈ F k) :
    Dict.get T jd = some (v / (ks.map fp).sum) :=
  Dict.get_of_mem T c.keys_nodup (jd, v / (ks.map fp).sum) <| by
    rw [c.eq]; exact List.mem_map.2 ⟨(jd, v), List.mem_flatMap.2 ⟨k, hk, hv⟩, rfl⟩

end Classes

theorem bind_ok {ε α β : Type} {x : Except ε α} {f : α → Except ε β} {b : β} (h : x >>= f = .ok b) :
    ∃ a, x = .ok a ∧ f a = .ok b := by
  cases x with
  | error e => cases h
  | ok a => exact ⟨a, rfl, h⟩

/-- `for k in ks: table = step(table, k)`, when a successful round `k` is the assignment loop over `rows k` and
    certifies `good k`: the result is one assignment loop over all classes, and every round was good -/
theorem foldlM_setAll {step : Table → Nat → Except Err Table} {rows : Nat → Table} {good : Nat → Prop}
    (hstep : ∀ k t t', step t k = .ok t' → good k ∧ t' = Dict.setAll t (rows k)) :
    ∀ (ks : List Nat) (t0 T0 : Table), ks.foldlM step t0 = .ok T0 →
      (∀ k ∈ ks, good k) ∧ T0 = Dict.setAll t0 (ks.flatMap rows) := by
  intro ks
  induction ks with
  | nil => intro t0 T0 h; cases h; exact ⟨fun _ h => (nomatch h), rfl⟩
  | cons k ks ih =>
    intro t0 T0 h
    rw [List.foldlM_cons] at h
    obtain ⟨t', hs, h⟩ := bind_ok h
    obtain ⟨hg, rfl⟩ := hstep k t0 t' hs
    obtain ⟨hgs, rfl⟩ := ih _ T0 h
    exact ⟨List.forall_mem_cons.2 ⟨hg, hgs⟩, (List.foldl_append ..).symm⟩

/-- both loaders: a loop whose successful rounds write a class each, then `normalise` -/
theorem classes_of_loop {step : Table → Nat → Except Err Table} {rows : Nat → Table} {good : Nat → Prop}
    {fp : Nat → Rat} {ks : List Nat} {T : Table} (hn : ks.Nodup)
    (hstep : ∀ k t t', step t k = .ok t' → (good k ∧ IsClass (rows k) k (fp k)) ∧ t' = Dict.setAll t (rows k))
    (h : (do let t ← ks.foldlM step []; normalise t) = .ok T) :
    (∀ k ∈ ks, good k) ∧ Classes rows fp ks T := by
  obtain ⟨T0, h0, h⟩ := bind_ok h
  obtain ⟨hc, rfl⟩ := foldlM_setAll hstep ks [] T0 h0
  rw [Dict.setAll_nil_of_nodup (flatMap_keys_nodup hn fun k hk => (hc k hk).2)] at h
  exact ⟨fun k hk => (hc k hk).1, hn, fun k hk => (hc k hk).2, h⟩

theorem resolveRange_eq_foldlM (probs : List Rat) (fp : Nat → Rat) (ks : List Nat) (t : Table) :
    resolveRange probs fp ks t = ks.foldlM (fun t k => resolve probs k (fp k) t) t := by
  induction ks generalizing t with
  | nil => rfl
  | cons k ks ih => simp only [resolveRange, List.foldlM_cons, ih]

/-- one round of `JointDegreeDelta.create_jdd` -/
def deltaStep (nTop : Nat) (probs : List Rat) (fp : Nat → Rat) (target : Nat) (t : Table) (k : Nat) :
    Except Err Table :=
  if k ≠ target then .ok (Dict.set t (k :: List.replicate (nTop - 1) 0) (fp k)) else resolve probs k (fp k) t

theorem deltaStep_of_ne {nTop : Nat} {probs : List Rat} {fp : Nat → Rat} {target k : Nat} (h : k ≠ target)
    (t : Table) :
    deltaStep nTop probs fp target t k = .ok (Dict.set t (k :: List.replicate (nTop - 1) 0) (fp k)) :=
  if_pos h

theorem deltaStep_target (nTop : Nat) (probs : List Rat) (fp : Nat → Rat) (target : Nat) (t : Table) :
    deltaStep nTop probs fp target t target = resolve probs target (fp target) t :=
  if_neg (not_not.2 rfl)

theorem deltaRange_eq_foldlM (nTop : Nat) (probs : List Rat) (fp : Nat → Rat) (target : Nat)
    (ks : List Nat) (t : Table) :
    deltaRange nTop probs fp target ks t = ks.foldlM (deltaStep nTop probs fp target) t := by
  induction ks generalizing t with
  | nil => rfl
  | cons k ks ih =>
    simp only [deltaRange, List.foldlM_cons, deltaStep, ih]
    split <;> rfl

/-- the rows `JointDegreeDelta` writes for degree `k` -/
def deltaRows (nTop : Nat) (probs : List Rat) (fp : Nat → Rat) (target k : Nat) : Table :=
  if k ≠ target then [(k :: List.replicate (nTop - 1) 0, fp k)] else splitRows probs (fp k) k

theorem deltaRows_of_ne {nTop : Nat} {probs : List Rat} {fp : Nat → Rat} {target k : Nat} (h : k ≠ target) :
    deltaRows nTop probs fp target k = [(k :: List.replicate (nTop - 1) 0, fp k)] :=
  if_pos h

theorem deltaRows_target (nTop : Nat) (probs : List Rat) (fp : Nat → Rat) (target : Nat) :
    deltaRows nTop probs fp target target = splitRows probs (fp target) target :=
  if_neg (not_not.2 rfl)

theorem split_classes {fp : Nat → Rat} {probs : List Rat} {lo hi : Nat} {T : Table}
    (ht : 1 ≤ probs.length) (h : splitDegree fp probs lo hi = .ok T) :
    (∀ k ∈ rangeAB lo hi, splitTotal probs k ≠ 0) ∧
      Classes (fun k => splitRows probs (fp k) k) fp (rangeAB lo hi) T := by
  rw [splitDegree, resolveRange_eq_foldlM] at h
  refine classes_of_loop (rangeAB_nodup lo hi) (fun k t t' hs => ?_) h
  obtain ⟨hW, e⟩ := resolve_ok_setAll ht hs
  exact ⟨⟨hW, isClass_splitRows hW⟩, e⟩

theorem delta_classes {nTop : Nat} {fp : Nat → Rat} {probs : List Rat} {lo hi target : Nat} {T : Table}
    (ht : 1 ≤ probs.length) (h : delta nTop fp probs lo hi target = .ok T) :
    (target ∈ rangeAB lo hi → splitTotal probs target ≠ 0) ∧
      Classes (deltaRows nTop probs fp target) fp (rangeAB lo hi) T := by
  rw [delta, deltaRange_eq_foldlM] at h
  refine (classes_of_loop (good := fun k => k = target → splitTotal probs k ≠ 0) (rangeAB_nodup lo hi)
    (fun k t t' hs => ?_) h).imp_left fun hW hm => hW _ hm rfl
  by_cases hkt : k = target
  · subst hkt
    rw [deltaStep_target] at hs
    rw [deltaRows_target]
    obtain ⟨hW, e⟩ := resolve_ok_setAll ht hs
    exact ⟨⟨fun _ => hW, isClass_splitRows hW⟩, e⟩
  · rw [deltaStep_of_ne hkt] at hs
    cases hs
    rw [deltaRows_of_ne hkt]
    exact ⟨⟨fun e => absurd e hkt, isClass_pure ..⟩, rfl⟩

end Gcmpy.SplitDegree
