import GcmpyModel.Properties.C14Matrix
import Mathlib.Algebra.BigOperators.Ring.List
/-!
The composition theorem of property C14 (fourth sentence): the row sums of the mixing matrix extracted from a
clean annotated network ARE the excess distribution of the network's empirical joint degree distribution.

Route: one double counting (`List.sum_map_eq_sum_count`).  A quantity of the own vertex's annotation, added up
over the edge ends of a topology, is the sum over the vertices of that quantity times the number of ends at the
vertex, which in a loop-free clean network is `c · jd(v)[i]` (`sum_ends_by_annotation`).  The handshake
`2E = c · Σ jd[i]` and the number of ends with a given own excess tuple are its two instances.
-/
namespace Gcmpy.Algebra
open Gcmpy Gcmpy.Loaders Gcmpy.Mixing

/-- number of edge ends of topology `name` among `es` whose own vertex is `v` -/
def endsAt (name : String) (v : Nat) (es : List (Nat × Nat × String)) : Nat :=
  ((es.filter fun e => decide (e.2.2 = name)).map fun e =>
    (if e.1 = v then 1 else 0) + (if e.2.1 = v then 1 else 0)).sum

/-- number of vertices whose joint degree `k` has `k[i] ≥ 1` and excess tuple `k - e_i = a` -/
def nVert (net : ANet) (i : Nat) (a : JD) : Nat :=
  ((net.jd.map (·.2)).filter fun k => decide (1 ≤ k.getD i 0 ∧ excess k i = a)).length

/-- `Σ_v jd(v)[i]` -/
def degSum (net : ANet) (i : Nat) : Nat := ((net.jd.map (·.2)).map fun k => k.getD i 0).sum

theorem sum_map_ite_nat {α : Type} (l : List α) (p : α → Bool) (w : Nat) :
    (l.map fun x => if p x then w else 0).sum = l.countP p * w := by
  rw [Counters.sum_map_ite_const, nsmul_eq_mul, Nat.cast_id]

theorem countP_eq_sum {α : Type} (l : List α) (p : α → Bool) :
    l.countP p = (l.map fun x => if p x then 1 else 0).sum := by
  rw [sum_map_ite_nat, Nat.mul_one]

/-- the own vertices of the edge ends of topology `name`, in the order of `ends` -/
def ownVerts (net : ANet) (name : String) : List Nat :=
  (net.edges.filter fun e => e.2.2 = name).flatMap fun e => [e.1, e.2.1]

theorem map_fst_ends (net : ANet) (i : Nat) (name : String) :
    (ends net i name).map (·.1) = (ownVerts net name).map fun v => excess (jdOf net v) i := by
  rw [ends_eq_sym, map_fst_sym, List.flatMap_map, ownVerts, List.map_flatMap]; rfl

theorem endsAt_nil (name : String) (v : Nat) : endsAt name v [] = 0 := rfl

theorem count_ownVerts (net : ANet) (name : String) (v : Nat) :
    (ownVerts net name).count v = endsAt name v net.edges := by
  rw [ownVerts, List.count_flatMap, endsAt]
  refine congrArg List.sum (List.map_congr_left fun e _ => ?_)
  rw [Function.comp, List.count_cons, List.count_cons, List.count_nil, Nat.zero_add, Nat.add_comm]
  simp only [beq_iff_eq]

theorem endsAt_eq_incident (net : ANet) (name : String) (v : Nat) (hL : ∀ e ∈ net.edges, e.1 ≠ e.2.1) :
    endsAt name v net.edges = incident net name v := by
  rw [incident, ← List.countP_eq_length_filter, countP_eq_sum, endsAt, Counters.sum_map_filter_eq_ite]
  refine congrArg List.sum (List.map_congr_left fun e he => ?_)
  by_cases hn : e.2.2 = name
  · rw [if_pos (decide_eq_true hn)]
    by_cases h1 : e.1 = v
    · rw [if_pos h1, if_neg fun h2 => hL e he (h1.trans h2.symm), if_pos (decide_eq_true ⟨hn, Or.inl h1⟩)]
    · by_cases h2 : e.2.1 = v
      · rw [if_neg h1, if_pos h2, if_pos (decide_eq_true ⟨hn, Or.inr h2⟩)]
      · rw [if_neg h1, if_neg h2, if_neg (mt of_decide_eq_true fun h => h.2.elim h1 h2)]
  · rw [if_neg (mt of_decide_eq_true hn), if_neg (mt of_decide_eq_true fun h => hn h.1)]

theorem sum_vertices_eq {net : ANet} (hV : (net.jd.map (·.1)).Nodup) (g : JD → Nat) :
    ((net.jd.map (·.1)).map fun v => g (jdOf net v)).sum = ((net.jd.map (·.2)).map g).sum := by
  rw [List.map_map, List.map_map]
  refine congrArg List.sum (List.map_congr_left fun p hp => congrArg g ?_)
  show jdOf net p.1 = p.2
  rw [jdOf, Dict.get_of_mem net.jd hV p hp]; rfl

/-- vertices of excess tuple `a`, each weighted with `c · jd[i]`: only those with `jd[i] ≥ 1` count, and
    for them `jd[i] = a[i] + 1` -/
theorem sum_excess_weight (l : List JD) (i c : Nat) (a : JD) :
    (l.map fun k => c * k.getD i 0 * (if excess k i = a then 1 else 0)).sum =
      (l.filter fun k => decide (1 ≤ k.getD i 0 ∧ excess k i = a)).length * c * (a.getD i 0 + 1) := by
  rw [← List.countP_eq_length_filter, Nat.mul_assoc, ← sum_map_ite_nat]
  refine congrArg List.sum (List.map_congr_left fun k _ => ?_)
  by_cases h1 : excess k i = a
  · by_cases h0 : 1 ≤ k.getD i 0
    · rw [if_pos h1, if_pos (decide_eq_true ⟨h0, h1⟩), ← h1, excess, getD_modify_pred k i h0, Nat.mul_one]
    · rw [if_neg (mt of_decide_eq_true fun h => h0 h.1), Nat.eq_zero_of_not_pos h0, Nat.mul_zero, Nat.zero_mul]
  · rw [if_neg h1, if_neg (mt of_decide_eq_true fun h => h1 h.2), Nat.mul_zero]

theorem mem_excessKeys_iff (net : ANet) (i : Nat) (a : JD) :
    a ∈ excessKeys net i ↔ ∃ k ∈ net.jd.map (·.2), 1 ≤ k.getD i 0 ∧ excess k i = a := by
  rw [excessKeys, List.mem_eraseDups, List.mem_map]
  exact exists_congr fun k => by rw [List.mem_filter, decide_eq_true_eq, and_assoc]; rfl

theorem nVert_pos_iff (net : ANet) (i : Nat) (a : JD) : 0 < nVert net i a ↔ a ∈ excessKeys net i := by
  rw [mem_excessKeys_iff, nVert, List.length_pos_iff_exists_mem]
  exact exists_congr fun k => by rw [List.mem_filter, decide_eq_true_eq]

theorem nVert_eq_count (net : ANet) (i : Nat) (k : JD) (hk : 1 ≤ k.getD i 0) :
    nVert net i (excess k i) = (net.jd.map (·.2)).count k := by
  rw [nVert, List.count_eq_length_filter]
  refine congrArg List.length (List.filter_congr fun k' _ => ?_)
  rw [Bool.eq_iff_iff, decide_eq_true_eq, beq_iff_eq, excess, excess]
  exact ⟨fun h => modify_pred_inj h.1 hk h.2, fun h => h.symm ▸ ⟨hk, rfl⟩⟩

section Clean
variable {net : ANet} {T : Nat} {names : List String} {i c : Nat} {name : String}
  (h : CleanNetwork net T names i name c)
include h

theorem CleanNetwork.index_lt : i < names.length := (List.getElem?_eq_some_iff.1 h.name_at).1


/-- the one counting argument: a quantity `g` of the own vertex's annotation, added up over the edge ends of
    the topology, is the sum over the annotations `k` of `c · k[i] · g k`, since vertex `v` is the own vertex
    of `c · jd(v)[i]` ends -/
theorem sum_ends_by_annotation (g : JD → Nat) :
    ((ownVerts net name).map fun v => g (jdOf net v)).sum =
      ((net.jd.map (·.2)).map fun k => c * k.getD i 0 * g k).sum := by
  have hsub : ∀ v ∈ ownVerts net name, v ∈ net.jd.map (·.1) := by
    intro v hv
    obtain ⟨e, he, hv⟩ := List.mem_flatMap.1 hv
    have hA := h.annotated e (List.mem_filter.1 he).1
    rcases List.mem_pair.1 hv with rfl | rfl
    · exact (Dict.get_isSome_iff_mem_keys ..).1 hA.1
    · exact (Dict.get_isSome_iff_mem_keys ..).1 hA.2
  rw [List.sum_map_eq_sum_count h.vertices_once hsub, ← sum_vertices_eq h.vertices_once]
  refine congrArg List.sum (List.map_congr_left fun v hv => ?_)
  rw [count_ownVerts, endsAt_eq_incident net name v h.loop_free, h.clean v hv]

/-- handshake: every edge of the topology has two ends, and vertex `v` is the own end of `c · jd(v)[i]` -/
theorem two_E_eq : 2 * numE net name = c * degSum net i := by
  have := sum_ends_by_annotation h fun _ => 1
  rw [List.map_const', List.sum_replicate, nsmul_eq_mul, Nat.cast_id, Nat.mul_one] at this
  rw [← ends_length net i name, ← List.length_map (f := (·.1)), map_fst_ends, List.length_map, this, degSum,
    ← List.sum_map_mul_left]
  exact congrArg List.sum (List.map_congr_left fun k _ => Nat.mul_one _)

/-- the number of edge ends of the topology whose own vertex has excess tuple `a`: each of the `nVert`
    vertices of joint degree `a + e_i` is the own end of `c · (a[i] + 1)` ends -/
theorem own_ends_count (a : JD) :
    ((ends net i name).filter fun q => decide (q.1 = a)).length = nVert net i a * c * (a.getD i 0 + 1) := by
  rw [← List.countP_eq_length_filter]
  refine (List.countP_map (p := fun x => decide (x = a)) (f := fun q : JD × JD => q.1)).symm.trans ?_
  rw [map_fst_ends, List.countP_map, countP_eq_sum]
  simp only [Function.comp, decide_eq_true_eq]
  exact (sum_ends_by_annotation h fun k => if excess k i = a then 1 else 0).trans (sum_excess_weight ..)

/-- an edge of topology `name` is incident to both of its end points, hence in a clean network both have a
    positive `i`-th component -/
theorem clean_positive :
    ∀ e ∈ net.edges, e.2.2 = name → 1 ≤ (jdOf net e.1).getD i 0 ∧ 1 ≤ (jdOf net e.2.1).getD i 0 := by
  intro e he hn
  have hinc (v : Nat) (hv : (Dict.get net.jd v).isSome) (hev : e.1 = v ∨ e.2.1 = v) :
      1 ≤ (jdOf net v).getD i 0 := by
    have : 0 < incident net name v :=
      List.length_pos_of_mem (List.mem_filter.2 ⟨he, decide_eq_true ⟨hn, hev⟩⟩)
    rw [h.clean v ((Dict.get_isSome_iff_mem_keys ..).1 hv)] at this
    exact Nat.pos_of_mul_pos_left this
  exact ⟨hinc _ (h.annotated e he).1 (Or.inl rfl), hinc _ (h.annotated e he).2 (Or.inr rfl)⟩

theorem exists_end_of_mem_excessKeys {a : JD} (ha : a ∈ excessKeys net i) : ∃ q ∈ ends net i name, q.1 = a := by
  have hpos : 0 < ((ends net i name).filter fun q => decide (q.1 = a)).length := by
    rw [own_ends_count h a]
    exact Nat.mul_pos (Nat.mul_pos ((nVert_pos_iff net i a).2 ha) h.c_pos) (Nat.succ_pos _)
  obtain ⟨q, hq⟩ := List.exists_mem_of_length_pos hpos
  exact ⟨q, (List.mem_filter.1 hq).1, of_decide_eq_true (List.mem_filter.1 hq).2⟩

end Clean

/-- the excess distribution of a histogram, no network needed: `q_i(k - e_i) = #k · k[i] / Σ_k' k'[i]` -/
theorem get_exTable_jdd (jds : List JD) (i : Nat) {k : JD} (hk : k ∈ jds) (hpos : k.getD i 0 > 0) :
    Dict.get (exTable (jddFromNetwork jds) i) (k.modify i (· - 1)) =
      some (((jds.count k : Nat) : Rat) * ((k.getD i 0 : Nat) : Rat) /
        (((jds.map fun k => k.getD i 0).sum : Nat) : Rat)) := by
  have hmem : (k, _) ∈ jddFromNetwork jds := Dict.mem_of_get ((jdd_from_network_value _ k).trans (if_pos hk))
  refine (get_exTable _ i (jdd_from_network_keys_nodup jds) _ hmem hpos).trans (congrArg some ?_)
  rw [mean_jdd, ← mul_div_assoc, div_div_div_cancel_right₀ (Nat.cast_ne_zero.2 (List.length_pos_of_mem hk).ne'),
    mul_comm]

theorem uniform_jdd {net : ANet} {T : Nat} (hU : Mixing.Uniform net T) :
    Uniform (jddFromNetwork (net.jd.map (·.2))) T := fun kp hkp => by
  obtain ⟨p, hp, e⟩ := List.mem_map.1 ((mem_keys_jdd _ kp.1).1 (List.mem_map_of_mem hkp))
  exact e ▸ hU p hp

end Gcmpy.Algebra
