import GcmpyModel.Model.Dict
/-!
Python's `dict` as an association list (`Model/Dict.lean`): what `get`, `set`, `keys`, `update` compute, entry by
entry; then the loop `for (k, v) in l: d[k] = v` (`setAll`).  Two facts carry the rest: `get_set` (lookups after a
write) and `keys_set` (a write keeps the key list or appends the key, `addKey`).  Core Lean only; the accumulating
loop `d[k] = d.get(k, 0) + w`, which needs sums, is in `Lemmas/DictTally.lean`.
-/
namespace Gcmpy.Dict
variable {κ ν μ : Type}

theorem keys_nil : keys ([] : List (κ × ν)) = [] := rfl

theorem keys_cons (x : κ × ν) (r : List (κ × ν)) : keys (x :: r) = x.1 :: keys r := rfl

theorem keys_append (d e : List (κ × ν)) : keys (d ++ e) = keys d ++ keys e := List.map_append

theorem mem_keys_of_mem {d : List (κ × ν)} {x : κ × ν} (h : x ∈ d) : x.1 ∈ keys d :=
  List.mem_map_of_mem h

theorem keys_map_val (d : List (κ × ν)) (f : κ → ν → μ) :
    keys (d.map fun p => (p.1, f p.1 p.2)) = keys d :=
  List.map_map.trans rfl

/-- `h` takes the pair, so that `rw` finds it -/
theorem keys_map (d : List (κ × ν)) (g : κ → κ) (h : κ × ν → μ) :
    keys (d.map fun kv => (g kv.1, h kv)) = (keys d).map g := by
  rw [keys, keys, List.map_map, List.map_map]; rfl

theorem keys_filter (d : List (κ × ν)) (p : κ → Bool) :
    keys (d.filter fun kv => p kv.1) = (keys d).filter p := by
  simp only [keys, List.filter_map]; rfl

theorem nodup_of_nodup_keys {d : List (κ × ν)} (h : (keys d).Nodup) : d.Nodup :=
  (List.pairwise_map.1 h).imp fun hne e => hne (congrArg Prod.fst e)

variable [DecidableEq κ]

theorem get_nil (k : κ) : get ([] : List (κ × ν)) k = none := rfl

theorem get_cons (x : κ × ν) (r : List (κ × ν)) (k : κ) :
    get (x :: r) k = if x.1 = k then some x.2 else get r k := rfl

theorem set_nil (k : κ) (v : ν) : set ([] : List (κ × ν)) k v = [(k, v)] := rfl

theorem set_cons (x : κ × ν) (r : List (κ × ν)) (k : κ) (v : ν) :
    set (x :: r) k v = if x.1 = k then (x.1, v) :: r else x :: set r k v := rfl

theorem get_eq_none_iff (d : List (κ × ν)) (k : κ) : get d k = none ↔ k ∉ keys d := by
  induction d with
  | nil => simp [get_nil, keys_nil]
  | cons x r ih => by_cases h : x.1 = k <;> simp [get_cons, keys_cons, h, ih, Ne.symm]

theorem get_isSome_iff_mem_keys (d : List (κ × ν)) (k : κ) : (get d k).isSome = true ↔ k ∈ keys d := by
  rw [← Option.ne_none_iff_isSome, Ne, get_eq_none_iff, Classical.not_not]

theorem contains_iff_mem_keys (d : List (κ × ν)) (k : κ) : contains d k = true ↔ k ∈ keys d :=
  get_isSome_iff_mem_keys d k

theorem get_getD_of_mem_keys {d : List (κ × ν)} {k : κ} (dflt : ν) (h : k ∈ keys d) :
    get d k = some ((get d k).getD dflt) := by
  cases hg : get d k with
  | none => exact absurd h ((get_eq_none_iff d k).1 hg)
  | some v => rfl

theorem mem_of_get {d : List (κ × ν)} {k : κ} {v : ν} (h : get d k = some v) : (k, v) ∈ d := by
  induction d with
  | nil => cases h
  | cons x r ih =>
    rw [get_cons] at h
    split at h
    · next e => cases h; subst e; exact List.mem_cons_self
    · exact List.mem_cons_of_mem _ (ih h)

theorem get_of_mem (d : List (κ × ν)) (hn : (keys d).Nodup) (x : κ × ν) (hx : x ∈ d) :
    get d x.1 = some x.2 := by
  induction d with
  | nil => cases hx
  | cons y r ih =>
    rw [keys_cons, List.nodup_cons] at hn
    rcases List.mem_cons.1 hx with rfl | hx'
    · simp [get_cons]
    · rw [get_cons, if_neg fun e : y.1 = x.1 => hn.1 (e ▸ mem_keys_of_mem hx')]
      exact ih hn.2 hx'

theorem mem_iff_get {d : List (κ × ν)} (hn : (keys d).Nodup) (k : κ) (v : ν) :
    (k, v) ∈ d ↔ get d k = some v :=
  ⟨get_of_mem d hn (k, v), mem_of_get⟩

theorem get_set (d : List (κ × ν)) (k k' : κ) (v : ν) :
    get (set d k v) k' = if k = k' then some v else get d k' := by
  induction d with
  | nil => rfl
  | cons x r ih =>
    rw [set_cons]
    by_cases h : x.1 = k
    · subst h; rw [if_pos rfl, get_cons, get_cons]; split <;> rfl
    · rw [if_neg h, get_cons, get_cons, ih]
      by_cases h2 : x.1 = k'
      · simp only [if_pos h2, if_neg (h2 ▸ Ne.symm h)]
      · simp only [if_neg h2]

theorem get_set_self (d : List (κ × ν)) (k : κ) (v : ν) : get (set d k v) k = some v := by
  rw [get_set, if_pos rfl]

theorem set_of_not_mem (d : List (κ × ν)) (k : κ) (v : ν) (h : k ∉ keys d) :
    set d k v = d ++ [(k, v)] := by
  induction d with
  | nil => rfl
  | cons x r ih =>
    rw [keys_cons, List.mem_cons, not_or] at h
    rw [set_cons, if_neg (Ne.symm h.1), ih h.2, List.cons_append]

/-- the key list after `d[k] = …`: `k` goes to the end unless it is there already -/
def addKey (ks : List κ) (k : κ) : List κ := if k ∈ ks then ks else ks ++ [k]

theorem mem_addKey (l : List κ) (k x : κ) : x ∈ addKey l k ↔ x ∈ l ∨ x = k := by
  unfold addKey; split
  · next h => exact ⟨.inl, fun h' => h'.elim id (· ▸ h)⟩
  · simp

theorem nodup_addKey (l : List κ) (k : κ) (h : l.Nodup) : (addKey l k).Nodup := by
  unfold addKey; split
  · exact h
  · next hk =>
    exact List.nodup_append.2 ⟨h, List.nodup_cons.2 ⟨List.not_mem_nil, List.nodup_nil⟩,
      fun a ha b hb e => hk (List.mem_singleton.1 hb ▸ e ▸ ha)⟩

theorem keys_set (d : List (κ × ν)) (k : κ) (v : ν) : keys (set d k v) = addKey (keys d) k := by
  unfold addKey
  split
  · next h =>
    induction d with
    | nil => cases h
    | cons x r ih =>
      rw [set_cons]
      split
      · rfl
      · next hx => rw [keys_cons, keys_cons, ih ((List.mem_cons.1 h).resolve_left (Ne.symm hx))]
  · next h => rw [set_of_not_mem d k v h, keys_append]; rfl

theorem keys_set_of_mem (d : List (κ × ν)) (k : κ) (v : ν) (h : k ∈ keys d) :
    keys (set d k v) = keys d :=
  (keys_set d k v).trans (if_pos h)

theorem mem_foldl_addKey (ks l : List κ) (x : κ) : x ∈ ks.foldl addKey l ↔ x ∈ l ∨ x ∈ ks := by
  induction ks generalizing l with
  | nil => simp
  | cons k ks ih => rw [List.foldl_cons, ih, mem_addKey, List.mem_cons, or_assoc]

theorem nodup_foldl_addKey {ks l : List κ} (h : l.Nodup) : (ks.foldl addKey l).Nodup :=
  List.foldlRecOn ks addKey h fun l h k _ => nodup_addKey l k h

theorem foldl_addKey_of_nodup (ks l : List κ) (h : (l ++ ks).Nodup) : ks.foldl addKey l = l ++ ks := by
  induction ks generalizing l with
  | nil => simp
  | cons k ks ih =>
    have hk : k ∉ l := fun hk => (List.nodup_append.1 h).2.2 k hk k List.mem_cons_self rfl
    rw [List.foldl_cons, addKey, if_neg hk, ih _ (by simpa using h), List.append_assoc,
      List.singleton_append]

theorem foldl_addKey_of_subset (ks l : List κ) (h : ∀ k ∈ ks, k ∈ l) : ks.foldl addKey l = l := by
  induction ks with
  | nil => rfl
  | cons k ks ih =>
    rw [List.forall_mem_cons] at h
    rw [List.foldl_cons, addKey, if_pos h.1, ih h.2]

theorem length_set_of_mem (d : List (κ × ν)) (k : κ) (v : ν) (h : k ∈ keys d) :
    (set d k v).length = d.length := by
  simpa [keys] using congrArg List.length (keys_set_of_mem d k v h)

theorem mem_set (d : List (κ × ν)) (k : κ) (v : ν) (x : κ × ν) (hx : x ∈ set d k v) :
    x ∈ d ∨ x = (k, v) := by
  induction d with
  | nil => exact Or.inr (List.mem_singleton.1 hx)
  | cons y r ih =>
    rw [set_cons] at hx
    split at hx
    · next e =>
      rcases List.mem_cons.1 hx with h | h
      · exact Or.inr (e ▸ h)
      · exact Or.inl (List.mem_cons_of_mem _ h)
    · rcases List.mem_cons.1 hx with h | h
      · exact Or.inl (h ▸ List.mem_cons_self)
      · exact (ih h).imp_left (List.mem_cons_of_mem _)

theorem set_set (d : List (κ × ν)) (k : κ) (v w : ν) : set (set d k v) k w = set d k w := by
  induction d with
  | nil => simp [set_nil, set_cons]
  | cons x r ih => by_cases h : x.1 = k <;> simp [set_cons, h, ih]

theorem get_update (d : List (κ × ν)) (k k' : κ) (dflt : ν) (f : ν → ν) :
    get (update d k dflt f) k' = if k = k' then some (f ((get d k).getD dflt)) else get d k' :=
  get_set ..

theorem keys_update (d : List (κ × ν)) (k : κ) (dflt : ν) (f : ν → ν) :
    keys (update d k dflt f) = addKey (keys d) k :=
  keys_set ..

theorem update_update_self (d : List (κ × ν)) (k : κ) (dflt : ν) (f g : ν → ν) :
    update (update d k dflt f) k dflt g = update d k dflt (g ∘ f) := by
  simp only [update, get_set_self, set_set, Option.getD_some, Function.comp]

theorem get_map_inj (d : List (κ × ν)) (g : κ → κ) (h : κ → ν → μ) (k : κ)
    (hinj : ∀ a ∈ keys d, g a = g k → a = k) :
    get (d.map fun kv => (g kv.1, h kv.1 kv.2)) (g k) = (get d k).map (h k) := by
  induction d with
  | nil => rfl
  | cons x r ih =>
    have ih' := ih fun b hb => hinj b (List.mem_cons_of_mem _ hb)
    rw [List.map_cons, get_cons, get_cons]
    by_cases e : x.1 = k
    · subst e; rw [if_pos rfl, if_pos rfl]; rfl
    · rw [if_neg e, if_neg fun e' => e (hinj x.1 List.mem_cons_self e'), ih']

theorem get_map_val (d : List (κ × ν)) (f : κ → ν → μ) (k : κ) :
    get (d.map fun p => (p.1, f p.1 p.2)) k = (get d k).map (f k) :=
  get_map_inj d id f k fun _ _ e => e

theorem get_map_key (ks : List κ) (g : κ → ν) (k : κ) :
    get (ks.map fun k => (k, g k)) k = if k ∈ ks then some (g k) else none := by
  induction ks with
  | nil => rfl
  | cons a r ih =>
    rw [List.map_cons, get_cons, ih]
    by_cases h : a = k
    · subst h; simp
    · simp [h, Ne.symm h]

theorem get_append (d e : List (κ × ν)) (k : κ) : get (d ++ e) k = (get d k).or (get e k) := by
  induction d with
  | nil => rfl
  | cons x r ih => rw [List.cons_append, get_cons, get_cons, ih]; split <;> rfl

theorem get_filter (d : List (κ × ν)) (p : κ → Bool) (k : κ) :
    get (d.filter fun kv => p kv.1) k = if p k then get d k else none := by
  induction d with
  | nil => simp [get_nil]
  | cons x r ih =>
    by_cases h : x.1 = k
    · subst h; cases hp : p x.1 <;> simp [get_cons, hp, ih]
    · cases hp : p x.1 <;> simp [get_cons, hp, ih, h]

theorem perm_of_get_eq {d₁ d₂ : List (κ × ν)} (h₁ : (keys d₁).Nodup) (h₂ : (keys d₂).Nodup)
    (h : ∀ k, get d₁ k = get d₂ k) : d₁.Perm d₂ := by
  rw [List.perm_ext_iff_of_nodup (nodup_of_nodup_keys h₁) (nodup_of_nodup_keys h₂)]
  rintro ⟨k, v⟩
  rw [mem_iff_get h₁, mem_iff_get h₂, h]

theorem ext_of_keys_eq {d₁ d₂ : List (κ × ν)} (hk : keys d₁ = keys d₂) (hn : (keys d₂).Nodup)
    (h : ∀ k ∈ keys d₂, get d₁ k = get d₂ k) : d₁ = d₂ := by
  refine List.ext_getElem (by simpa [keys] using congrArg List.length hk) fun i h₁ h₂ => ?_
  have e : d₁[i].1 = d₂[i].1 := by simpa [keys] using List.getElem_of_eq hk (by simpa [keys] using h₁)
  have hv := h _ (mem_keys_of_mem (List.getElem_mem h₂))
  rw [get_of_mem d₂ hn _ (List.getElem_mem h₂), ← e, get_of_mem d₁ (hk ▸ hn) _ (List.getElem_mem h₁)] at hv
  exact Prod.ext e (Option.some.inj hv)

/-- the fold behind every loop `for (k, v) in l: d[k] = v` -/
abbrev setAll (d l : List (κ × ν)) : List (κ × ν) := l.foldl (fun d kv => set d kv.1 kv.2) d

theorem setAll_cons (d : List (κ × ν)) (x : κ × ν) (l : List (κ × ν)) :
    setAll d (x :: l) = setAll (set d x.1 x.2) l := rfl

theorem foldl_set_eq_setAll {α : Type} (key : α → κ) (val : α → ν) (l : List α) (d : List (κ × ν)) :
    l.foldl (fun d x => set d (key x) (val x)) d = setAll d (l.map fun x => (key x, val x)) :=
  by rw [setAll, List.foldl_map]

/-- later writes win: look in `l` from the back, then in `d` -/
theorem get_setAll (l d : List (κ × ν)) (k : κ) :
    get (setAll d l) k = (get l.reverse k).or (get d k) := by
  induction l generalizing d with
  | nil => rfl
  | cons x xs ih =>
    rw [setAll_cons, ih, get_set, List.reverse_cons, get_append, get_cons, get_nil]
    cases get xs.reverse k <;> split <;> rfl

theorem get_setAll_cases (l d : List (κ × ν)) (k : κ) :
    (k ∉ keys l ∧ get (setAll d l) k = get d k) ∨ ∃ v, (k, v) ∈ l ∧ get (setAll d l) k = some v := by
  rw [get_setAll]
  cases h : get l.reverse k with
  | none =>
    refine .inl ⟨fun hk => (get_eq_none_iff _ k).1 h ?_, rfl⟩
    rw [keys, List.map_reverse]; exact List.mem_reverse.2 hk
  | some v => exact .inr ⟨v, List.mem_reverse.1 (mem_of_get h), rfl⟩

theorem keys_setAll (l d : List (κ × ν)) : keys (setAll d l) = (keys l).foldl addKey (keys d) := by
  induction l generalizing d with
  | nil => rfl
  | cons x xs ih => rw [setAll_cons, ih, keys_set]; rfl

theorem mem_keys_setAll (l d : List (κ × ν)) (k : κ) :
    k ∈ keys (setAll d l) ↔ k ∈ keys d ∨ k ∈ keys l := by
  rw [keys_setAll, mem_foldl_addKey]

theorem nodup_keys_setAll (l d : List (κ × ν)) (h : (keys d).Nodup) : (keys (setAll d l)).Nodup :=
  keys_setAll l d ▸ nodup_foldl_addKey h

theorem mem_setAll (l d : List (κ × ν)) (x : κ × ν) (hx : x ∈ setAll d l) : x ∈ d ∨ x ∈ l := by
  induction l generalizing d with
  | nil => exact Or.inl hx
  | cons y ys ih =>
    rcases ih _ hx with h | h
    · exact (mem_set d y.1 y.2 x h).imp_right fun (e : x = (y.1, y.2)) => e ▸ List.mem_cons_self
    · exact Or.inr (List.mem_cons_of_mem _ h)

theorem setAll_append (l d : List (κ × ν)) (hl : (keys l).Nodup) (hd : ∀ k ∈ keys l, k ∉ keys d) :
    setAll d l = d ++ l := by
  induction l generalizing d with
  | nil => simp
  | cons x xs ih =>
    rw [keys_cons, List.nodup_cons] at hl
    rw [setAll_cons, set_of_not_mem d x.1 x.2 (hd _ List.mem_cons_self), ih _ hl.2, List.append_assoc,
      List.singleton_append]
    intro k hk hm
    rcases List.mem_append.1 (keys_append d _ ▸ hm) with h | h
    · exact hd k (List.mem_cons_of_mem _ hk) h
    · exact hl.1 ((List.mem_singleton.1 h : k = x.1) ▸ hk)

theorem setAll_nil_of_nodup {l : List (κ × ν)} (h : (keys l).Nodup) : setAll [] l = l :=
  setAll_append l [] h fun _ _ => List.not_mem_nil

theorem get_foldl_set (ks : List κ) (g : κ → ν) (d : List (κ × ν)) (k : κ) :
    get (ks.foldl (fun d k' => set d k' (g k')) d) k = if k ∈ ks then some (g k) else get d k := by
  rw [foldl_set_eq_setAll (fun k => k) g, get_setAll, ← List.map_reverse, get_map_key]
  simp only [List.mem_reverse]
  split <;> rfl

theorem foldl_setAll (ls : List (List (κ × ν))) (d : List (κ × ν)) :
    ls.foldl setAll d = setAll d ls.flatten :=
  List.foldl_flatten.symm

/-- a loop all of whose writes store `f key`: which write wins does not matter -/
theorem get_setAll_of_agrees (f : κ → ν) (l d : List (κ × ν)) (h : ∀ x ∈ l, x.2 = f x.1) (k : κ) :
    get (setAll d l) k = if k ∈ keys l then some (f k) else get d k := by
  rcases get_setAll_cases l d k with ⟨hk, e⟩ | ⟨v, hv, e⟩
  · rw [e, if_neg hk]
  · rw [e, if_pos (mem_keys_of_mem hv)]; exact congrArg some (h _ hv)

end Gcmpy.Dict
