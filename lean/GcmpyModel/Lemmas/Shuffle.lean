import GcmpyModel.Model.Shuffle
/-! Fisher–Yates: permutation, and bijection between valid draw sequences and arrangements. -/
namespace Gcmpy.Shuffle
variable {α : Type}

theorem validB_iff (n : Nat) (cs : List Nat) : validB n cs = true ↔ Valid n cs := by
  fun_induction validB n cs <;> simp_all [Valid]

@[simp] theorem length_swap (l : List α) (i j : Nat) : (swap l i j).length = l.length := by
  unfold swap; split <;> simp

theorem getElem?_swap {l : List α} {i j k : Nat} (hi : i < l.length) (hj : j < l.length) :
    (swap l i j)[k]? = if k = j then l[i]? else if k = i then l[j]? else l[k]? := by
  rw [swap, List.getElem?_eq_getElem hi, List.getElem?_eq_getElem hj]
  simp only [List.getElem?_set, List.length_set]
  -- position `j` is written last, so it wins when `i = j`
  by_cases hkj : j = k
  · subst hkj; simp [hj]
  · by_cases hki : i = k
    · subst hki; simp [hi, hkj, Ne.symm hkj]
    · simp [hkj, hki, Ne.symm hkj, Ne.symm hki]

theorem swap_perm (l : List α) (i j : Nat) : (swap l i j).Perm l := by
  unfold swap
  split
  · rename_i a b ha hb
    rcases List.getElem?_eq_some_iff.1 ha with ⟨hi, rfl⟩
    rcases List.getElem?_eq_some_iff.1 hb with ⟨hj, rfl⟩
    exact List.set_set_perm hi hj
  · exact List.Perm.refl _

theorem shuffle_perm (n : Nat) (l : List α) (cs : List Nat) : (shuffle n l cs).Perm l := by
  fun_induction shuffle n l cs with
  | case1 | case2 | case3 => exact List.Perm.refl _
  | case4 n l j cs ih => exact ih.trans (swap_perm _ _ _)

@[simp] theorem length_shuffle (n : Nat) (l : List α) (cs : List Nat) :
    (shuffle n l cs).length = l.length :=
  (shuffle_perm n l cs).length_eq

/-- positions at or beyond `n` are never touched -/
theorem shuffle_fix (n : Nat) (l : List α) (cs : List Nat) (hn : n ≤ l.length) (hv : Valid n cs)
    (i : Nat) (hi : n ≤ i) : (shuffle n l cs)[i]? = l[i]? := by
  fun_induction shuffle n l cs with
  | case1 | case2 | case3 => rfl
  | case4 n l j cs ih =>
    simp only [Valid] at hv
    rw [ih (by simp; omega) hv.2 (by omega), getElem?_swap (by omega) (by omega),
      if_neg (by omega), if_neg (by omega)]

/-- the element placed last is the one the first draw selects -/
theorem shuffle_last (n : Nat) (l : List α) (j : Nat) (cs : List Nat) (hn : n + 2 ≤ l.length)
    (hv : Valid (n+2) (j :: cs)) : (shuffle (n+2) l (j :: cs))[n+1]? = l[j]? := by
  simp only [Valid] at hv
  show (shuffle (n+1) (swap l (n+1) j) cs)[n+1]? = _
  rw [shuffle_fix _ _ _ (by simp; omega) hv.2 _ (Nat.le_refl _), getElem?_swap (by omega) (by omega)]
  split
  · subst ‹_›; rfl
  · exact if_pos rfl

theorem nodup_idx_inj (l : List α) (hl : l.Nodup) (i j : Nat) (hi : i < l.length)
    (h : l[i]? = l[j]?) : i = j :=
  (List.getElem?_inj hi hl).1 h

/-- Injectivity: the item in the last slot reveals the first draw (`shuffle_last`, no duplicates), and the rest is
    a shuffle of one item less. -/
theorem shuffle_inj (n : Nat) (l : List α) (hl : l.Nodup) (hn : n ≤ l.length) (cs cs' : List Nat)
    (hv : Valid n cs) (hv' : Valid n cs') (h : shuffle n l cs = shuffle n l cs') : cs = cs' := by
  induction n generalizing l cs cs' with
  | zero => simp only [Valid] at hv hv'; rw [hv, hv']
  | succ n ih =>
    cases n with
    | zero => simp only [Valid] at hv hv'; rw [hv, hv']
    | succ n =>
      -- `Valid (n + 2) []` is `False`, so only the arm with two non-empty draw lists is left
      match cs, cs', hv, hv' with
      | j :: cs, j' :: cs', hv, hv' =>
        have e1 := shuffle_last n l j cs hn hv
        have e2 := shuffle_last n l j' cs' hn hv'
        rw [h, e2] at e1
        simp only [Valid] at hv hv'
        have hjj : j' = j := nodup_idx_inj l hl j' j (by omega) e1
        subst hjj
        have : shuffle (n+1) (swap l (n+1) j') cs = shuffle (n+1) (swap l (n+1) j') cs' := h
        rw [ih (swap l (n+1) j') ((swap_perm _ _ _).nodup_iff.2 hl) (by simp; omega) cs cs' hv.2 hv'.2 this]

/-- an arrangement of a duplicate-free list that agrees with it from position `n` on keeps the items of the
    first `n` positions among the first `n` positions -/
theorem idx_lt_of_fix {l p : List α} (hl : l.Nodup) (hp : p.Perm l) {n : Nat}
    (hfix : ∀ i, n ≤ i → p[i]? = l[i]?) {k j : Nat} (hk : k < n) (hkp : k < p.length) (hj : j < l.length)
    (h : p[k] = l[j]) : j < n := by
  refine Nat.lt_of_not_le fun hnj => ?_
  have := hfix j hnj
  rw [List.getElem?_eq_getElem hj, List.getElem?_eq_getElem (hp.length_eq ▸ hj), ← h] at this
  have := (List.getElem_inj (hp.nodup_iff.2 hl)).1 (Option.some.inj this)
  omega

/-- Surjectivity: every arrangement of the first `n` slots arises from a valid draw sequence. -/
theorem shuffle_surj (n : Nat) (l p : List α) (hl : l.Nodup) (hn : n ≤ l.length)
    (hp : p.Perm l) (hfix : ∀ i, n ≤ i → p[i]? = l[i]?) :
    ∃ cs, Valid n cs ∧ shuffle n l cs = p := by
  have hlen : p.length = l.length := hp.length_eq
  induction n generalizing l with
  | zero => exact ⟨[], rfl, (List.ext_getElem? fun i => hfix i (Nat.zero_le _)).symm⟩
  | succ n ih =>
    -- the item that `p` has in slot `n` sits in one of the first `n + 1` slots of `l`
    obtain ⟨j, hj, hje⟩ := List.getElem_of_mem (hp.mem_iff.1 (List.getElem_mem (show n < p.length by omega)))
    have hjn := idx_lt_of_fix hl hp hfix (Nat.lt_succ_self n) (by omega) hj hje.symm
    cases n with
    | zero =>
      refine ⟨[], rfl, (List.ext_getElem? (l₂ := l) fun i => ?_).symm⟩
      rcases Nat.eq_zero_or_pos i with rfl | hi
      · obtain rfl : j = 0 := by omega
        rw [List.getElem?_eq_getElem hj, List.getElem?_eq_getElem (by omega), hje]
      · exact hfix i hi
    | succ n =>
      have hfix' : ∀ i, n + 1 ≤ i → p[i]? = (swap l (n+1) j)[i]? := by
        intro i hi
        rw [getElem?_swap (by omega) (by omega)]
        rcases Nat.eq_or_lt_of_le hi with rfl | hlt
        · rw [List.getElem?_eq_getElem (by omega), ← hje, if_pos rfl, List.getElem?_eq_getElem hj]
          split
          · subst ‹_›; exact (List.getElem?_eq_getElem hj).symm
          · rfl
        · rw [hfix i (by omega), if_neg (by omega), if_neg (by omega)]
      obtain ⟨cs, hv, hs⟩ := ih (swap l (n+1) j) ((swap_perm _ _ _).nodup_iff.2 hl) (by simp; omega)
        (hp.trans (swap_perm _ _ _).symm) hfix' (by simp [hlen])
      exact ⟨j :: cs, ⟨by omega, hv⟩, hs⟩

/-- **Fisher–Yates is a bijection** between valid draw sequences and arrangements. -/
theorem shuffle_bijective (l p : List α) (hl : l.Nodup) (hp : p.Perm l) :
    ∃ cs, (Valid l.length cs ∧ shuffle l.length l cs = p) ∧
      ∀ cs', Valid l.length cs' ∧ shuffle l.length l cs' = p → cs' = cs := by
  rcases shuffle_surj l.length l p hl (Nat.le_refl _) hp
    (fun i hi => by rw [List.getElem?_eq_none hi, List.getElem?_eq_none (by rw [hp.length_eq]; exact hi)])
    with ⟨cs, hv, hs⟩
  exact ⟨cs, ⟨hv, hs⟩, fun cs' h => shuffle_inj _ l hl (Nat.le_refl _) cs' cs h.1 hv (h.2.trans hs.symm)⟩

end Gcmpy.Shuffle