import Mathlib.Algebra.BigOperators.Group.Finset.Sigma
import Mathlib.Algebra.BigOperators.Ring.Finset
import Mathlib.Order.Interval.Finset.Nat
import Mathlib.Data.Finset.Max
import Mathlib.Tactic.Ring
import GcmpyModel.Lemmas.HararyPalmer
/-
The chordless-cycle closed form is the automated equation on `C_n` (property C16, `cycle_exact`).

`percAutoE_eq_automatedEquation` turns `automatedEquation (cycleGraph n) φ (fun _ => u) 0` into the finset-level sum
over the vertex sets `S ∋ 0` of `Perc.term … S = (1-φ)^|∂S| · u^(|S|-1) · Σ_{F ⊆ E(S), comp_F(0) = S} wt F`.
The edges are numbered `ce n 0, …, ce n (n-1)`; everything rests on one picture, `comp_cycE`: if `i ≤ j` are the
first and the last closed edge of a configuration, the component of `0` is `arc n i j = {0..i} ∪ {j+1..n-1}` (all of
it if `i = j`).  Hence
* `fiber_classify` : only arcs (`i < j`) and the whole vertex set have a non-zero term (`Perc.autoE_eq_sum_of_fibers`);
* `fiber_arc`, `fiber_full` : a connected graph on `S` needs `|S| - 1` edges (`Cayley.conn_card_ge`), so the path
  induced on an arc has one connected spanning edge set and the cycle has `n + 1`;
* `autoE_cycle_eq` sums over the arcs by their number `s` of vertices: there are `s` of them, `arc n a (n - s + a)`,
  `a < s`.
-/
namespace Gcmpy.ClosedForms
open Gcmpy Gcmpy.Graph Gcmpy.Automated

/-- the cycle `0 - 1 - … - (n-1) - 0` -/
def cycleGraph (n : Nat) : Motif :=
  { nodes := List.range n, edges := (List.range (n - 1)).map (fun i => (i, i + 1)) ++ [(0, n - 1)] }

/-- the `i`-th edge of `cycleGraph n` (`i < n`): `(i, i+1)`, the last one being the closing edge `(0, n-1)` -/
def ce (n i : Nat) : Edge := if i + 1 = n then (0, i) else (i, i + 1)

def cycE (n : Nat) : Finset Edge := (cycleGraph n).edges.toFinset

theorem ce_of_lt {n i : Nat} (h : i + 1 < n) : ce n i = (i, i + 1) := if_neg (by omega)

theorem ce_last (n : Nat) : ce (n + 1) n = (0, n) := if_pos rfl

/-- the two ends of `ce n k`, in the form `omega` can use -/
theorem ce_ends (n k : Nat) : ((ce n k).1 = k ∧ (ce n k).2 = k + 1 ∧ k + 1 ≠ n) ∨
    ((ce n k).1 = 0 ∧ (ce n k).2 = k ∧ k + 1 = n) := by
  unfold ce
  split_ifs with h
  · exact Or.inr ⟨rfl, rfl, h⟩
  · exact Or.inl ⟨rfl, rfl, h⟩

theorem cycleGraph_edges_eq {n : Nat} (hn : 1 ≤ n) : (cycleGraph n).edges = (List.range n).map (ce n) := by
  obtain ⟨m, rfl⟩ : ∃ m, n = m + 1 := ⟨n - 1, by omega⟩
  show (List.range m).map (fun i => (i, i + 1)) ++ [(0, m)] = _
  rw [List.range_succ, List.map_append, List.map_singleton, ce_last]
  congr 1
  exact List.map_congr_left fun i hi => (ce_of_lt (by have := List.mem_range.1 hi; omega)).symm

theorem mem_cycleGraph_edges {n : Nat} (hn : 1 ≤ n) {e : Edge} :
    e ∈ (cycleGraph n).edges ↔ ∃ i, i < n ∧ e = ce n i := by
  simp only [cycleGraph_edges_eq hn, List.mem_map, List.mem_range, eq_comm]

theorem mem_cycE {n : Nat} (hn : 1 ≤ n) {e : Edge} : e ∈ cycE n ↔ ∃ i, i < n ∧ e = ce n i := by
  unfold cycE
  rw [List.mem_toFinset, mem_cycleGraph_edges hn]

theorem ce_mem_cycE {n i : Nat} (hi : i < n) : ce n i ∈ cycE n :=
  (mem_cycE (by omega)).2 ⟨i, hi, rfl⟩

theorem ce_injective {n : Nat} (hn : 3 ≤ n) : Function.Injective (ce n) := by
  intro i j h
  have h1 := congrArg Prod.fst h
  have h2 := congrArg Prod.snd h
  have := ce_ends n i
  have := ce_ends n j
  omega

theorem eq_image_ce {n : Nat} (hn : 1 ≤ n) {X : Finset Edge} {J : Finset Nat} (hX : X ⊆ cycE n)
    (hJ : J ⊆ Finset.range n) (h : ∀ k, k < n → (ce n k ∈ X ↔ k ∈ J)) : X = J.image (ce n) := by
  ext e
  rw [Finset.mem_image]
  constructor
  · intro he
    obtain ⟨k, hk, rfl⟩ := (mem_cycE hn).1 (hX he)
    exact ⟨k, (h k hk).1 he, rfl⟩
  · rintro ⟨k, hk, rfl⟩
    exact (h k (Finset.mem_range.1 (hJ hk))).2 hk

theorem cycleGraph_lt {n : Nat} (hn : 2 ≤ n) : ∀ e ∈ (cycleGraph n).edges, e.1 < e.2 ∧ e.2 < n := by
  intro e he
  obtain ⟨i, hi, rfl⟩ := (mem_cycleGraph_edges (by omega)).1 he
  have := ce_ends n i
  omega

theorem cycleGraph_wf {n : Nat} (hn : 2 ≤ n) : WFGraph (cycleGraph n).edges (cycleGraph n).nodes :=
  wf_of_lt (cycleGraph_lt hn)

theorem cycleGraph_edges_nodup {n : Nat} (hn : 3 ≤ n) : (cycleGraph n).edges.Nodup := by
  rw [cycleGraph_edges_eq (by omega)]
  exact List.Nodup.map (ce_injective hn) List.nodup_range

theorem cycleGraph_simple {n : Nat} (hn : 3 ≤ n) : Simple (cycleGraph n).edges :=
  simple_of_lt (cycleGraph_edges_nodup hn) fun e he => (cycleGraph_lt (by omega) e he).1

theorem card_cycE {n : Nat} (hn : 3 ≤ n) : (cycE n).card = n := by
  rw [cycE, List.toFinset_card_of_nodup (cycleGraph_edges_nodup hn), cycleGraph_edges_eq (by omega), List.length_map,
    List.length_range]

/-- **cut lemma**: if the edges number `i < j` are closed, the walks from `0` stay in `{0..i} ∪ {j+1..n-1}` -/
theorem reach_cut {n : Nat} (hn : 1 ≤ n) {F : Finset Edge} (hF : F ⊆ cycE n) {i j : Nat} (hij : i < j)
    (hj : j < n) (hi' : ce n i ∉ F) (hj' : ce n j ∉ F) {v : Nat} (h : Perc.Reach F 0 v) : v ≤ i ∨ j < v := by
  refine Perc.Reach.closed (P := fun v => v ≤ i ∨ j < v) ?_ (Or.inl (Nat.zero_le i)) h
  intro e he
  obtain ⟨k, hk, rfl⟩ := (mem_cycE hn).1 (hF he)
  have hki : k ≠ i := fun h => hi' (h ▸ he)
  have hkj : k ≠ j := fun h => hj' (h ▸ he)
  have := ce_ends n k
  omega

/-- going up: `0 → 1 → … → v` -/
theorem reach_up {n : Nat} {F : Finset Edge} : ∀ v, v < n → (∀ k, k < v → ce n k ∈ F) → Perc.Reach F 0 v
  | 0, _, _ => Relation.ReflTransGen.refl
  | v+1, hv, h => by
    refine (reach_up v (by omega) fun k hk => h k (by omega)).tail (Or.inl ?_)
    have := h v (by omega)
    rwa [ce_of_lt (by omega)] at this

/-- going down: `0 → n-1 → … → v` -/
theorem reach_down {n : Nat} {F : Finset Edge} :
    ∀ d v, v + d + 1 = n → (∀ k, v ≤ k → k < n → ce n k ∈ F) → Perc.Reach F 0 v
  | 0, v, hv, h => by
    refine Relation.ReflTransGen.single (Or.inl ?_)
    have := h v (le_refl v) (by omega)
    rwa [← hv, ce_last] at this
  | d+1, v, hv, h => by
    refine (reach_down d (v + 1) (by omega) fun k hk hk' => h k (by omega) hk').tail (Or.inr ?_)
    have := h v (le_refl v) (by omega)
    rwa [ce_of_lt (by omega)] at this

/-- what stays connected to `0` when the edges number `i < j` are closed and all others open: `{0..i} ∪ {j+1..n-1}`
(`comp_cycE`) -/
def arc (n i j : Nat) : Finset Nat := Finset.range (i + 1) ∪ Finset.Ioo j n

theorem mem_arc {n i j v : Nat} : v ∈ arc n i j ↔ v ≤ i ∨ (j < v ∧ v < n) := by
  unfold arc
  simp only [Finset.mem_union, Finset.mem_range, Finset.mem_Ioo, Nat.lt_succ_iff]

theorem card_range_union_Ioo {a j n : Nat} (h : a ≤ j + 1) :
    (Finset.range a ∪ Finset.Ioo j n).card = a + (n - j - 1) := by
  rw [Finset.card_union_of_disjoint, Finset.card_range, Nat.card_Ioo]
  rw [Finset.disjoint_left]
  intro v h1 h2
  simp only [Finset.mem_range, Finset.mem_Ioo] at h1 h2
  omega

theorem card_arc {n i j : Nat} (hij : i < j) (hj : j < n) : (arc n i j).card = i + (n - j) := by
  rw [arc, card_range_union_Ioo (by omega)]; omega

theorem arc_subset {n i j : Nat} (hi : i < n) : arc n i j ⊆ Finset.range n := by
  intro v hv
  rw [mem_arc] at hv
  rw [Finset.mem_range]; omega

theorem zero_mem_arc {n i j : Nat} : 0 ∈ arc n i j := mem_arc.2 (Or.inl (Nat.zero_le i))

theorem cycE_subset_pairs {n : Nat} (hn : 2 ≤ n) : cycE n ⊆ HP.pairs (Finset.range n) := fun e he => by
  have := cycleGraph_lt hn e (List.mem_toFinset.1 he)
  exact HP.mem_pairs.2 ⟨Finset.mem_range.2 (by omega), Finset.mem_range.2 this.2, this.1⟩

/-- **the root component in a configuration of the cycle**: if `i ≤ j` are the first and the last closed edge, it is
`{0..i} ∪ {j+1..n-1}` -/
theorem comp_cycE {n : Nat} (hn : 1 ≤ n) {F : Finset Edge} (hF : F ⊆ cycE n) {i j : Nat} (hij : i ≤ j)
    (hj : j < n) (hi' : ce n i ∉ F) (hj' : ce n j ∉ F) (hlo : ∀ k, k < i → ce n k ∈ F)
    (hhi : ∀ k, j < k → k < n → ce n k ∈ F) :
    Perc.comp (Finset.range n) F 0 = arc n i j := by
  ext v
  rw [Perc.mem_comp, mem_arc, Finset.mem_range]
  constructor
  · rintro ⟨hv, h⟩
    rcases Nat.lt_or_ge i j with h' | h'
    · have := reach_cut hn hF h' hj hi' hj' h; omega
    · omega
  · rintro (hv | hv)
    · exact ⟨by omega, reach_up (n := n) v (by omega) fun k hk => hlo k (by omega)⟩
    · exact ⟨hv.2, reach_down (n := n) (n - 1 - v) v (by omega) fun k hk hk' => hhi k (by omega) hk'⟩

theorem exists_first_last_closed {n : Nat} (hn : 1 ≤ n) {F : Finset Edge} (hF : F ⊆ cycE n) (hne : F ≠ cycE n) :
    ∃ i j, i ≤ j ∧ j < n ∧ ce n i ∉ F ∧ ce n j ∉ F ∧ (∀ k, k < i → ce n k ∈ F) ∧
      ∀ k, j < k → k < n → ce n k ∈ F := by
  set D := (Finset.range n).filter (fun k => ce n k ∉ F) with hD
  have hDne : D.Nonempty := by
    obtain ⟨e, heE, heF⟩ := Finset.not_subset.1 fun h => hne (Finset.Subset.antisymm hF h)
    obtain ⟨k, hk, rfl⟩ := (mem_cycE hn).1 heE
    exact ⟨k, Finset.mem_filter.2 ⟨Finset.mem_range.2 hk, heF⟩⟩
  have hm := Finset.mem_filter.1 (D.min'_mem hDne)
  have hM := Finset.mem_filter.1 (D.max'_mem hDne)
  refine ⟨D.min' hDne, D.max' hDne, D.min'_le _ (D.max'_mem hDne), Finset.mem_range.1 hM.1, hm.2, hM.2, ?_, ?_⟩
  · intro k hk
    by_contra hkF
    exact absurd (D.min'_le k
        (Finset.mem_filter.2 ⟨Finset.mem_range.2 (by have := Finset.mem_range.1 hm.1; omega), hkF⟩))
      (by omega)
  · intro k hk hkn
    by_contra hkF
    exact absurd (D.le_max' k (Finset.mem_filter.2 ⟨Finset.mem_range.2 hkn, hkF⟩)) (by omega)

theorem comp_cycE_all (n : Nat) : Perc.comp (Finset.range n) (cycE n) 0 = Finset.range n := by
  ext v
  rw [Perc.mem_comp, Finset.mem_range]
  exact ⟨fun h => h.1, fun h => ⟨h, reach_up (n := n) v h fun k hk => ce_mem_cycE (by omega)⟩⟩

theorem mem_insert_image_erase_of_card {α : Type} [DecidableEq α] {E F : Finset α} (hF : F ⊆ E)
    (h : E.card ≤ F.card + 1) : F ∈ insert E (E.image E.erase) := by
  rw [Finset.mem_insert, Finset.mem_image]
  by_cases hFE : F = E
  · exact Or.inl hFE
  · obtain ⟨e, heE, heF⟩ := Finset.not_subset.1 fun hh => hFE (Finset.Subset.antisymm hF hh)
    refine Or.inr ⟨e, heE, (Finset.eq_of_subset_of_card_le
      (fun x hx => Finset.mem_erase.2 ⟨fun (hxe : x = e) => heF (hxe ▸ hx), hF hx⟩) ?_).symm⟩
    rw [Finset.card_erase_of_mem heE]; omega

theorem sum_insert_image_erase {α M : Type} [DecidableEq α] [AddCommMonoid M] (E : Finset α) (g : Finset α → M) :
    ∑ F ∈ insert E (E.image E.erase), g F = g E + ∑ e ∈ E, g (E.erase e) := by
  rw [Finset.sum_insert, Finset.sum_image E.erase_injOn]
  exact fun h => let ⟨_, he, hh⟩ := Finset.mem_image.1 h; Finset.erase_ne_self.2 he hh

/-- index set of the edges inside an arc -/
def arcIdx (n i j : Nat) : Finset Nat := Finset.range i ∪ Finset.Ioo j n

theorem mem_arcIdx {n i j k : Nat} : k ∈ arcIdx n i j ↔ k < i ∨ (j < k ∧ k < n) := by
  unfold arcIdx
  simp only [Finset.mem_union, Finset.mem_range, Finset.mem_Ioo]

theorem card_arcIdx {n i j : Nat} (hij : i < j) (hj : j < n) : (arcIdx n i j).card = i + (n - j) - 1 := by
  rw [arcIdx, card_range_union_Ioo (by omega)]; omega

theorem ce_mem_inner_arc {n i j k : Nat} (hij : i < j) (hj : j < n) (hk : k < n) :
    ce n k ∈ Perc.inner (cycE n) (arc n i j) ↔ k ∈ arcIdx n i j := by
  rw [Perc.mem_inner, mem_arcIdx]
  simp only [ce_mem_cycE hk, true_and, mem_arc]
  have := ce_ends n k
  omega

theorem ce_mem_bdry_arc {n i j k : Nat} (hij : i < j) (hj : j < n) (hk : k < n) :
    ce n k ∈ Perc.bdry (cycE n) (arc n i j) ↔ k ∈ ({i, j} : Finset Nat) := by
  rw [Perc.mem_bdry, Finset.mem_insert, Finset.mem_singleton]
  simp only [ce_mem_cycE hk, true_and, mem_arc]
  have := ce_ends n k
  omega

theorem inner_arc {n i j : Nat} (hij : i < j) (hj : j < n) :
    Perc.inner (cycE n) (arc n i j) = (arcIdx n i j).image (ce n) := by
  apply eq_image_ce (by omega) (Finset.filter_subset _ _)
  · intro k hk; rw [mem_arcIdx] at hk; rw [Finset.mem_range]; omega
  · intro k hk; exact ce_mem_inner_arc hij hj hk

theorem card_inner_arc {n i j : Nat} (hn : 3 ≤ n) (hij : i < j) (hj : j < n) :
    (Perc.inner (cycE n) (arc n i j)).card = i + (n - j) - 1 := by
  rw [inner_arc hij hj, Finset.card_image_of_injective _ (ce_injective hn), card_arcIdx hij hj]

theorem card_bdry_arc {n i j : Nat} (hn : 3 ≤ n) (hij : i < j) (hj : j < n) :
    (Perc.bdry (cycE n) (arc n i j)).card = 2 := by
  have hsub : ({i, j} : Finset Nat) ⊆ Finset.range n := by
    intro k hk
    rw [Finset.mem_insert, Finset.mem_singleton] at hk
    rw [Finset.mem_range]; omega
  rw [eq_image_ce (X := Perc.bdry (cycE n) (arc n i j)) (by omega) (Finset.filter_subset _ _) hsub
      (fun k hk => ce_mem_bdry_arc hij hj hk),
    Finset.card_image_of_injective _ (ce_injective hn), Finset.card_pair (by omega)]

/-- the only connected spanning edge subset of the path induced on an arc is the whole path: it needs `|S| - 1` edges -/
theorem fiber_arc {n i j : Nat} (hn : 3 ≤ n) (hij : i < j) (hj : j < n) :
    (Perc.inner (cycE n) (arc n i j)).powerset.filter (fun F => Perc.comp (Finset.range n) F 0 = arc n i j)
      = {Perc.inner (cycE n) (arc n i j)} := by
  refine Perc.filter_powerset_eq (fun F hF => ?_) fun F hF hc => ?_
  · rw [Finset.mem_singleton.1 hF]
    refine ⟨Finset.Subset.refl _, comp_cycE (F := Perc.inner (cycE n) (arc n i j)) (by omega)
      (Finset.filter_subset _ _) hij.le hj
      ?_ ?_ ?_ ?_⟩
    · rw [ce_mem_inner_arc hij hj (by omega), mem_arcIdx]; omega
    · rw [ce_mem_inner_arc hij hj hj, mem_arcIdx]; omega
    · intro k hk; rw [ce_mem_inner_arc hij hj (by omega), mem_arcIdx]; omega
    · intro k hk hkn; rw [ce_mem_inner_arc hij hj hkn, mem_arcIdx]; omega
  · have hFp : F ⊆ HP.pairs (arc n i j) := fun e he => by
      have h1 := Perc.mem_inner.1 (hF he)
      exact HP.mem_pairs.2 ⟨h1.2.1, h1.2.2, (HP.mem_pairs.1 (cycE_subset_pairs (by omega) h1.1)).2.2⟩
    have := Cayley.conn_card_ge hFp ⟨0, zero_mem_arc⟩
      ((HP.comp_eq_iff_conn (arc_subset (by omega)) zero_mem_arc fun e he => (Perc.mem_inner.1 (hF he)).2).1 hc)
    rw [card_arc hij hj] at this
    exact Finset.mem_singleton.2 (Finset.eq_of_subset_of_card_le hF (by rw [card_inner_arc hn hij hj]; omega))

theorem term_arc {R : Type} [CommRing R] {n i j : Nat} (hn : 3 ≤ n) (hij : i < j) (hj : j < n) (p u : R) :
    Perc.term (Finset.range n) (cycE n) p (fun _ => u) 0 (arc n i j)
      = (1 - p) ^ 2 * u ^ (i + (n - j) - 1) * p ^ (i + (n - j) - 1) := by
  unfold Perc.term
  rw [fiber_arc hn hij hj, Finset.sum_singleton, Perc.wt_eq_pow p (Finset.Subset.refl _), Finset.prod_const,
    Finset.prod_const, card_bdry_arc hn hij hj, card_inner_arc hn hij hj, Finset.card_erase_of_mem zero_mem_arc,
    card_arc hij hj, Nat.sub_self, pow_zero, mul_one]

theorem inner_bdry_of_ends {E : Finset Edge} {S : Finset Nat} (h : ∀ e ∈ E, e.1 ∈ S ∧ e.2 ∈ S) :
    Perc.inner E S = E ∧ Perc.bdry E S = ∅ :=
  ⟨Finset.filter_true_of_mem h, Perc.bdry_eq_empty_iff.2 fun e he => iff_of_true (h e he).1 (h e he).2⟩

theorem cycE_ends {n : Nat} (hn : 2 ≤ n) : ∀ e ∈ cycE n, e.1 ∈ Finset.range n ∧ e.2 ∈ Finset.range n :=
  fun _ he => ⟨(HP.mem_pairs.1 (cycE_subset_pairs hn he)).1, (HP.mem_pairs.1 (cycE_subset_pairs hn he)).2.1⟩

/-- the connected spanning edge subsets of the cycle: all edges, or all but one (they need `n - 1` edges) -/
theorem fiber_full {n : Nat} (hn : 3 ≤ n) :
    (cycE n).powerset.filter (fun F => Perc.comp (Finset.range n) F 0 = Finset.range n)
      = insert (cycE n) ((cycE n).image (cycE n).erase) := by
  have h0 : 0 ∈ Finset.range n := Finset.mem_range.2 (by omega)
  refine Perc.filter_powerset_eq (fun F hF => ?_) fun F hF hc => ?_
  · rcases Finset.mem_insert.1 hF with rfl | hF
    · exact ⟨Finset.Subset.refl _, comp_cycE_all n⟩
    · -- one closed edge `i`: first and last closed edge coincide, `arc n i i` is everything
      obtain ⟨e, heE, rfl⟩ := Finset.mem_image.1 hF
      obtain ⟨i, hi, rfl⟩ := (mem_cycE (by omega)).1 heE
      have hne : ∀ k, k ≠ i → k < n → ce n k ∈ (cycE n).erase (ce n i) := fun k hk hkn =>
        Finset.mem_erase.2 ⟨fun hh => hk (ce_injective hn hh), ce_mem_cycE hkn⟩
      have hi' : ce n i ∉ (cycE n).erase (ce n i) := fun h => (Finset.mem_erase.1 h).1 rfl
      refine ⟨Finset.erase_subset _ _, ?_⟩
      rw [comp_cycE (by omega) (Finset.erase_subset _ _) (le_refl i) hi hi' hi'
        (fun k hk => hne k (by omega) (by omega)) (fun k hk hkn => hne k (by omega) hkn)]
      ext v; rw [mem_arc, Finset.mem_range]; omega
  · have := Cayley.conn_card_ge (hF.trans (cycE_subset_pairs (by omega))) ⟨0, h0⟩
      ((HP.comp_eq_iff_conn (Finset.Subset.refl _) h0 fun e he => cycE_ends (by omega) e (hF he)).1 hc)
    rw [Finset.card_range] at this
    exact mem_insert_image_erase_of_card hF (by rw [card_cycE hn]; omega)

theorem term_full {R : Type} [CommRing R] {n : Nat} (hn : 3 ≤ n) (p u : R) :
    Perc.term (Finset.range n) (cycE n) p (fun _ => u) 0 (Finset.range n)
      = u ^ (n - 1) * (p ^ n + (n : R) * p ^ (n - 1) * (1 - p)) := by
  unfold Perc.term
  obtain ⟨hI, hB⟩ := inner_bdry_of_ends (cycE_ends (n := n) (by omega))
  rw [hI, hB]
  have hw : ∀ e ∈ cycE n, Perc.wt p (cycE n) ((cycE n).erase e) = p ^ (n - 1) * (1 - p) := by
    intro e he
    rw [Perc.wt_eq_pow p (Finset.erase_subset _ _), Finset.card_erase_of_mem he, card_cycE hn]
    have : n - (n - 1) = 1 := by omega
    rw [this, pow_one]
  rw [fiber_full hn, sum_insert_image_erase, Finset.sum_congr rfl hw, Finset.sum_const,
    Perc.wt_eq_pow p (Finset.Subset.refl _), card_cycE hn, Finset.prod_empty, Finset.prod_const,
    Finset.card_erase_of_mem (Finset.mem_range.2 (by omega)), Finset.card_range, nsmul_eq_mul]
  simp only [Nat.sub_self, pow_zero, mul_one, one_mul]
  ring

theorem fiber_classify {n : Nat} (hn : 3 ≤ n) {S : Finset Nat} {F : Finset Edge} (hF : F ⊆ cycE n)
    (hc : Perc.comp (Finset.range n) F 0 = S) :
    S = Finset.range n ∨ ∃ i j, i < j ∧ j < n ∧ S = arc n i j := by
  by_cases hne : F = cycE n
  · exact Or.inl (by rw [← hc, hne, comp_cycE_all])
  obtain ⟨i, j, hij, hj, hi', hj', hlo, hhi⟩ := exists_first_last_closed (by omega) hF hne
  rw [comp_cycE (by omega) hF hij hj hi' hj' hlo hhi] at hc
  rcases Nat.lt_or_ge i j with h | h
  · exact Or.inr ⟨i, j, h, hj, hc.symm⟩
  · left
    rw [← hc]
    ext v
    rw [mem_arc, Finset.mem_range]; omega

theorem arc_inj {n i j i' j' : Nat} (h : i < j) (hj : j < n) (h' : i' < j') (hj' : j' < n)
    (heq : arc n i j = arc n i' j') : i = i' ∧ j = j' := by
  have key : ∀ v, (v ≤ i ∨ (j < v ∧ v < n)) ↔ (v ≤ i' ∨ (j' < v ∧ v < n)) := fun v => by
    rw [← mem_arc, ← mem_arc, heq]
  have h1 := key (i + 1)
  have h2 := key (i' + 1)
  have h3 := key j
  have h4 := key j'
  omega

/-- the finset-level decomposition on the cycle, summed: the non-zero terms are the whole cycle and, for each size
`1 ≤ s ≤ n - 1`, the `s` arcs with `s` vertices -/
theorem autoE_cycle_eq {R : Type} [CommRing R] {n : Nat} (hn : 3 ≤ n) (p u : R) :
    Perc.autoE (Finset.range n) (cycE n) p (fun _ => u) 0
      = (∑ s ∈ Finset.Icc 1 (n - 1), (s : R) * (p * u) ^ (s - 1) * (1 - p) ^ 2)
        + u ^ (n - 1) * (p ^ n + (n : R) * p ^ (n - 1) * (1 - p)) := by
  -- the arc with `s` vertices whose upward part ends at `a < s`: closed edges `a` and `n - s + a`
  let g : (Σ _ : Nat, Nat) → Finset Nat := fun y => arc n y.2 (n - y.1 + y.2)
  set r : Finset (Σ _ : Nat, Nat) := (Finset.Icc 1 (n - 1)).sigma fun s => Finset.range s with hr
  have hmem : ∀ {s a : Nat}, (⟨s, a⟩ : Σ _ : Nat, Nat) ∈ r ↔ (1 ≤ s ∧ s ≤ n - 1) ∧ a < s := by
    rw [hr]; simp only [Finset.mem_sigma, Finset.mem_Icc, Finset.mem_range, implies_true]
  have hlt : ∀ {s a : Nat}, (⟨s, a⟩ : Σ _ : Nat, Nat) ∈ r → a < n - s + a ∧ n - s + a < n := fun hy => by
    have := hmem.1 hy; omega
  have hnot : Finset.range n ∉ r.image g := by
    rw [Finset.mem_image]
    rintro ⟨⟨s, a⟩, hy, hh⟩
    have h1 := hlt hy
    have h2 : a + 1 ∈ arc n a (n - s + a) := by rw [show arc n a (n - s + a) = _ from hh, Finset.mem_range]; omega
    rw [mem_arc] at h2
    omega
  have hinj : Set.InjOn g (r : Set (Σ _ : Nat, Nat)) := by
    rintro ⟨s, a⟩ hx ⟨s', a'⟩ hy hh
    have h1 := hmem.1 hx
    have h2 := hmem.1 hy
    obtain ⟨rfl, h3⟩ := arc_inj (hlt hx).1 (hlt hx).2 (hlt hy).1 (hlt hy).2 hh
    obtain rfl : s = s' := by omega
    rfl
  rw [Perc.autoE_eq_sum_of_fibers (T := insert (Finset.range n) (r.image g)), Finset.sum_insert hnot,
    Finset.sum_image hinj, term_full hn, add_comm, Finset.sum_sigma]
  · congr 1
    refine Finset.sum_congr rfl fun s hs => ?_
    rw [Finset.mem_Icc] at hs
    rw [Finset.sum_congr rfl fun a ha => by
        have h := hlt (hmem.2 ⟨hs, Finset.mem_range.1 ha⟩)
        rw [show g ⟨s, a⟩ = arc n a (n - s + a) from rfl, term_arc hn h.1 h.2 p u,
          show a + (n - (n - s + a)) - 1 = s - 1 by omega],
      Finset.sum_const, Finset.card_range, nsmul_eq_mul, mul_pow]
    ring
  · intro S hS
    rcases Finset.mem_insert.1 hS with rfl | hS
    · exact ⟨Finset.Subset.refl _, Finset.mem_range.2 (by omega)⟩
    · obtain ⟨⟨s, a⟩, hy, rfl⟩ := Finset.mem_image.1 hS
      exact ⟨arc_subset (i := a) (by have := hlt hy; omega), zero_mem_arc⟩
  · intro S _ _ F hF hc
    rcases fiber_classify hn (hF.trans (Finset.filter_subset _ _)) hc with rfl | ⟨i, j, hij, hj, rfl⟩
    · exact Finset.mem_insert_self _ _
    · refine Finset.mem_insert_of_mem (Finset.mem_image.2 ⟨⟨i + (n - j), i⟩, hmem.2 (by omega), ?_⟩)
      show arc n i (n - (i + (n - j)) + i) = _
      rw [show n - (i + (n - j)) + i = j by omega]

theorem automated_cycle {R : Type} [CommRing R] {n : Nat} (hn : 3 ≤ n) (p u : R) :
    automatedEquation (cycleGraph n) p (fun _ => u) 0
      = (∑ s ∈ Finset.Icc 1 (n - 1), (s : R) * (p * u) ^ (s - 1) * (1 - p) ^ 2)
        + u ^ (n - 1) * (p ^ n + (n : R) * p ^ (n - 1) * (1 - p)) := by
  have h0 : 0 ∈ (cycleGraph n).nodes := by
    show 0 ∈ List.range n
    rw [List.mem_range]; omega
  rw [← percAutoE_eq_automatedEquation (cycleGraph n) (cycleGraph_wf (by omega)) (cycleGraph_simple hn) h0,
    show (cycleGraph n).nodes.toFinset = _ from List.toFinset_range n]
  exact autoE_cycle_eq hn p u

end Gcmpy.ClosedForms
