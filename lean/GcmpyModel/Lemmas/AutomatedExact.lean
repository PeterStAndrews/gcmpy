import Mathlib.Algebra.BigOperators.Ring.Finset
import Mathlib.Algebra.BigOperators.Group.List.Basic
import Mathlib.Algebra.BigOperators.Group.Finset.Powerset
import Mathlib.Data.Finset.Powerset
import Mathlib.Tactic.Ring
import GcmpyModel.Lemmas.ConnectedSubgraphs
import GcmpyModel.Lemmas.Percolation
/-
Glue between the executable model of the "automated equation" (`Model/Automated.lean`, lists and folds) and the
finset-level percolation identity `Perc.exactE_eq_autoE` (`Lemmas/Percolation.lean`).

* `Simple`, `exactE` : the vocabulary of property C15;
* `exactE_eq_percExactE` : the list-level specification is the finset-level exact expectation;
* `percAutoE_eq_automatedEquation` : the finset-level component decomposition is what the model computes.
-/
namespace Gcmpy.Automated
open Gcmpy Gcmpy.Graph

/-! ### Folds and sums over `sublists` as `Finset` sums (independent of the motif model) -/

theorem powN_eq_pow {M : Type} [Monoid M] (x : M) (n : Nat) : powN x n = x ^ n := by
  induction n with
  | zero => simp [powN]
  | succ n ih => simp [powN, ih, pow_succ]

theorem foldl_add_eq_sum {R α : Type} [AddCommMonoid R] (f : α → R) (l : List α) (a : R) :
    l.foldl (fun acc c => acc + f c) a = a + (l.map f).sum := by
  rw [← List.foldl_map, List.sum_eq_foldl, ← List.foldl_assoc (op := fun x y : R => x + y), add_zero]

theorem foldl_mul_eq_prod {R α : Type} [CommMonoid R] (f : α → R) (l : List α) (a : R) :
    l.foldl (fun acc c => acc * f c) a = a * (l.map f).prod := by
  rw [← List.foldl_map, List.prod_eq_foldl, ← List.foldl_assoc (op := fun x y : R => x * y), mul_one]

theorem sum_sublists_toFinset {α R : Type} [DecidableEq α] [AddCommMonoid R] (l : List α) (hl : l.Nodup)
    (f : Finset α → R) :
    ((sublists l).map fun A => f A.toFinset).sum = ∑ A ∈ l.toFinset.powerset, f A := by
  induction l generalizing f with
  | nil => simp [sublists]
  | cons x xs ih =>
    rw [List.nodup_cons] at hl
    have hx : x ∉ xs.toFinset := by simpa using hl.1
    rw [List.toFinset_cons, Finset.sum_powerset_insert hx, ← ih hl.2 f, ← ih hl.2 (fun A => f (insert x A))]
    simp [sublists, List.map_append, List.sum_append, List.map_map, Function.comp_def]

theorem sum_sublists_eq {α R : Type} [DecidableEq α] [AddCommMonoid R] (l : List α) (hl : l.Nodup)
    (f : List α → R) (f' : Finset α → R) (h : ∀ A, A.Sublist l → f A = f' A.toFinset) :
    ((sublists l).map f).sum = ∑ A ∈ l.toFinset.powerset, f' A := by
  rw [← sum_sublists_toFinset l hl f']
  congr 1
  apply List.map_congr_left
  intro A hA
  exact h A (mem_sublists_iff.1 hA)

theorem prod_filter_ne {R : Type} [CommMonoid R] {l : List Nat} (hl : l.Nodup) (u : Nat → R) (r : Nat) :
    ((l.filter (· ≠ r)).map u).prod = ∏ v ∈ l.toFinset.erase r, u v := by
  rw [← List.prod_toFinset u (hl.filter _), List.toFinset_filter, ← Finset.filter_ne']
  exact Finset.prod_congr (Finset.filter_congr fun v _ => by simp) fun _ _ => rfl

theorem sum_filter_sublists_eq {α R : Type} [DecidableEq α] [AddCommMonoid R] (l : List α) (hl : l.Nodup)
    (q : List α → Bool) (q' : Finset α → Prop) [DecidablePred q'] (f : List α → R) (f' : Finset α → R)
    (hq : ∀ A, A.Sublist l → (q A = true ↔ q' A.toFinset)) (hf : ∀ A, A.Sublist l → f A = f' A.toFinset) :
    (((sublists l).filter q).map f).sum = ∑ A ∈ l.toFinset.powerset.filter q', f' A := by
  have h := List.sum_map_ite (fun A => q A = true) f (fun _ => 0) (sublists l)
  simp only [List.map_const', List.sum_replicate, nsmul_zero, add_zero, Bool.decide_eq_true] at h
  rw [← h, Finset.sum_filter]
  apply sum_sublists_eq l hl
  intro A hA
  rw [hf A hA]
  exact if_congr (hq A hA) rfl rfl

theorem length_filter_sublists_eq {α : Type} [DecidableEq α] (l : List α) (hl : l.Nodup)
    (q : List α → Bool) (q' : Finset α → Prop) [DecidablePred q']
    (hq : ∀ A, A.Sublist l → (q A = true ↔ q' A.toFinset)) :
    ((sublists l).filter q).length = (l.toFinset.powerset.filter q').card := by
  rw [Finset.card_eq_sum_ones, ← sum_filter_sublists_eq l hl q q' (fun _ => 1) (fun _ => 1) hq fun _ _ => rfl,
    List.map_const', List.sum_replicate, nsmul_one, Nat.cast_id]

theorem toFinset_filter_notMem {α : Type} [DecidableEq α] (l A : List α) [∀ e, Decidable (e ∉ A)] :
    (l.filter fun e => decide (e ∉ A)).toFinset = l.toFinset \ A.toFinset := by
  ext e
  simp only [List.mem_toFinset, List.mem_filter, decide_eq_true_eq, Finset.mem_sdiff]

theorem dedup_length (l : List Nat) : (dedup l).length = l.toFinset.card := by
  rw [dedup_eq, List.card_toFinset]

/-! ### The specification of C15 and its glue to `Perc` -/

/-- a simple graph as an edge list: every undirected edge is listed once, no self-loops -/
def Simple (es : List Edge) : Prop := es.Nodup ∧ (∀ e ∈ es, e.1 ≠ e.2) ∧ ∀ e ∈ es, (e.2, e.1) ∉ es

theorem simple_of_lt {es : List Edge} (hnd : es.Nodup) (h : ∀ e ∈ es, e.1 < e.2) : Simple es :=
  ⟨hnd, fun e he => Nat.ne_of_lt (h e he), fun e he he' => Nat.lt_asymm (h e he) (h _ he')⟩

/-- THE SPECIFICATION: expectation, over independent occupation of each motif edge with probability `p`, of the
    product of `u` over the other vertices of the root's open component — written with the model's own notions
    (`sublists` = all open-edge sets, `comp` = executable connected component). -/
def exactE {R : Type} [CommRing R] (G : Motif) (p : R) (u : Nat → R) (root : Nat) : R :=
  ((sublists G.edges).map fun A =>
      p ^ A.length * (1 - p) ^ (G.edges.length - A.length) *
        (((comp A G.nodes.length root).filter (· ≠ root)).map u).prod).sum

theorem percAdj_iff {A : List Edge} {a b : Nat} : Perc.Adj A.toFinset a b ↔ Adj A a b := by
  unfold Perc.Adj Adj
  simp only [List.mem_toFinset]

theorem percReach_iff {A : List Edge} {r v : Nat} : Perc.Reach A.toFinset r v ↔ Reach A r v :=
  ⟨Relation.ReflTransGen.mono (fun _ _ => percAdj_iff.1) _ _,
    Relation.ReflTransGen.mono (fun _ _ => percAdj_iff.2) _ _⟩

theorem comp_toFinset {A : List Edge} {nodes : List Nat} (h : WFGraph A nodes) {r : Nat} (hr : r ∈ nodes) :
    (comp A nodes.length r).toFinset = Perc.comp nodes.toFinset A.toFinset r := by
  ext v
  rw [List.mem_toFinset, mem_comp_iff h hr, Perc.mem_comp, percReach_iff, List.mem_toFinset]
  exact ⟨fun hv => ⟨hv.mem_nodes h hr, hv⟩, fun hv => hv.2⟩

theorem exactE_eq_percExactE {R : Type} [CommRing R] (G : Motif) (hwf : WFGraph G.edges G.nodes)
    (hnd : G.edges.Nodup) {root : Nat} (hr : root ∈ G.nodes) (p : R) (u : Nat → R) :
    exactE G p u root = Perc.exactE G.nodes.toFinset G.edges.toFinset p u root := by
  unfold exactE Perc.exactE
  apply sum_sublists_eq G.edges hnd
  intro A hA
  have hAnd : A.Nodup := hA.nodup hnd
  have hsub : A.toFinset ⊆ G.edges.toFinset := fun e he =>
    List.mem_toFinset.2 (hA.subset (List.mem_toFinset.1 he))
  rw [Perc.wt_eq_pow p hsub, List.toFinset_card_of_nodup hAnd, List.toFinset_card_of_nodup hnd,
    prod_filter_ne (comp_nodup _ _ _), comp_toFinset (hwf.mono hA.subset) hr]

/-- `nx.is_connected` on the graph `(nodes, es)`, in percolation terms: the component of any vertex is everything -/
theorem connected_iff_percComp {es : List Edge} {nodes : List Nat} (h : WFGraph es nodes) {r : Nat}
    (hr : r ∈ nodes) {Vs : Finset Nat} (hV : nodes.toFinset ⊆ Vs) :
    connected es nodes = true ↔ Perc.comp Vs es.toFinset r = nodes.toFinset := by
  have hin : ∀ e ∈ es.toFinset, e.1 ∈ Vs ∧ e.2 ∈ Vs := fun e he =>
    ⟨hV (List.mem_toFinset.2 (h.2 e (List.mem_toFinset.1 he)).1),
      hV (List.mem_toFinset.2 (h.2 e (List.mem_toFinset.1 he)).2)⟩
  rw [connected_iff h (List.ne_nil_of_mem hr),
    Perc.comp_eq_iff_closed Vs _ hin r _ (List.mem_toFinset.2 hr)]
  simp only [List.mem_toFinset, percReach_iff]
  exact ⟨fun hall => ⟨hV, hall r hr, fun e he => iff_of_true (h.2 e he).1 (h.2 e he).2⟩,
    fun hall u hu v hv => (hall.2.1 u hu).symm.trans (hall.2.1 v hv)⟩

theorem inner_toFinset (G : Motif) (c : List Nat) :
    (inner G c).edges.toFinset = Perc.inner G.edges.toFinset c.toFinset := by
  rw [inner_edges]
  ext e
  simp only [Perc.inner, List.mem_toFinset, List.mem_filter, Finset.mem_filter, decide_eq_true_eq]

theorem interfaceCount_eq (G : Motif) (hnd : G.edges.Nodup) (c : List Nat) :
    interfaceCount G c = (Perc.bdry G.edges.toFinset c.toFinset).card := by
  rw [interfaceCount, ← List.toFinset_card_of_nodup (hnd.filter _), List.toFinset_filter, Perc.bdry]
  exact congrArg _ (Finset.filter_congr fun e _ => by
    rw [decide_eq_true_eq, and_comm]; simp only [List.mem_toFinset])

theorem connIn_of_percReach {es : List Edge} {S : Finset Nat} {F : Finset Edge}
    (hF : F ⊆ Perc.inner es.toFinset S) {r v : Nat} (h : Perc.Reach F r v) : ConnIn es S r v :=
  Relation.ReflTransGen.mono (fun _ _ hab => (Perc.adj_inner.1 hab).imp_left percAdj_iff.1) _ _ (h.mono hF)

/-- a vertex set that is the root component of some configuration inside it is a connected set -/
theorem isConnSet_of_fiber {G : Motif} {root : Nat} {S : Finset Nat} (hSV : S ⊆ G.nodes.toFinset)
    (hrS : root ∈ S) {F : Finset Edge} (hF : F ⊆ Perc.inner G.edges.toFinset S)
    (hc : Perc.comp G.nodes.toFinset F root = S) : IsConnSet G root S := by
  refine ⟨hrS, fun v hv => List.mem_toFinset.1 (hSV hv), fun v hv => ?_⟩
  rw [← hc, Perc.mem_comp] at hv
  exact connIn_of_percReach hF hv.2

/-- summing over kept edges = summing over removed edges -/
theorem sum_fiber_compl {R : Type} [CommRing R] (p : R) (Vs : Finset Nat) (I : Finset Edge) (root : Nat)
    (S : Finset Nat) :
    ∑ F ∈ I.powerset.filter (fun F => Perc.comp Vs F root = S), Perc.wt p I F
      = ∑ D ∈ I.powerset.filter (fun D => Perc.comp Vs (I \ D) root = S),
          p ^ (I.card - D.card) * (1 - p) ^ D.card := by
  rw [Finset.sum_filter, Finset.sum_filter, ← Perc.sum_powerset_sdiff I]
  refine Finset.sum_congr rfl fun D hD => ?_
  have hD := Finset.mem_powerset.1 hD
  rw [Perc.wt_eq_pow p Finset.sdiff_subset, Finset.card_sdiff_of_subset hD,
    Nat.sub_sub_self (Finset.card_le_card hD)]

theorem us_eq {R : Type} [CommRing R] (g : Motif) (hnd : g.nodes.Nodup) (u : Nat → R) (root : Nat) :
    us g u root = ∏ v ∈ g.nodes.toFinset.erase root, u v := by
  rw [us, foldl_mul_eq_prod, one_mul, prod_filter_ne hnd]

/-- the model's term for a component with at least two vertices -/
theorem componentTerm_big {R : Type} [CommRing R] (G : Motif) (hwf : WFGraph G.edges G.nodes)
    (hnd : G.edges.Nodup) {root : Nat} (p : R) (u : Nat → R) (c : List Nat) (hc : c.Nodup)
    (hS : IsConnSet G root c.toFinset) (hlen : c.length ≠ 1) :
    componentTerm G p u root c (edgeCombinations (inner G c))
      = Perc.term G.nodes.toFinset G.edges.toFinset p u root c.toFinset := by
  have hroot : root ∈ c := List.mem_toFinset.1 hS.1
  have hcard : 2 ≤ c.toFinset.card := by
    rw [List.toFinset_card_of_nodup hc]
    have := List.length_pos_of_mem hroot
    omega
  have hnodes : ∀ v, v ∈ (inner G c).nodes ↔ v ∈ c :=
    inner_spec hS hcard
  have hgwf : WFGraph (inner G c).edges (inner G c).nodes := inner_wf G c hwf
  have hgnd : (inner G c).edges.Nodup := hnd.filter _
  have hSV : c.toFinset ⊆ G.nodes.toFinset := fun v hv => List.mem_toFinset.2 (hS.2.1 v hv)
  have hnt : (inner G c).nodes.toFinset = c.toFinset := by
    ext v; simp only [List.mem_toFinset, hnodes]
  -- the model side as a list sum
  simp only [componentTerm, hlen, if_false]
  rw [foldl_add_eq_sum (fun n => powN p ((inner G c).edges.length - n) * powN (1 - p) n *
      powN (1 - p) (interfaceCount G c) * us (inner G c) u root), zero_add,
    ((edgeCombinations_spec (inner G c)).map _).sum_eq, List.map_map]
  rw [sum_filter_sublists_eq (inner G c).edges hgnd _
    (fun D => Perc.comp G.nodes.toFinset ((inner G c).edges.toFinset \ D) root = c.toFinset) _
    (fun D => p ^ ((inner G c).edges.toFinset.card - D.card) * (1 - p) ^ D.card *
      (1 - p) ^ (Perc.bdry G.edges.toFinset c.toFinset).card * ∏ v ∈ c.toFinset.erase root, u v)]
  · unfold Perc.term
    rw [sum_fiber_compl, inner_toFinset, Finset.mul_sum, Finset.prod_const]
    refine Finset.sum_congr rfl fun D _ => ?_
    ring
  · -- the connectivity test
    intro es _
    rw [connected_iff_percComp (hgwf.mono fun e he => (List.mem_filter.1 he).1)
      ((hnodes root).2 hroot) (hnt ▸ hSV), toFinset_filter_notMem, hnt]
  · -- the weight
    intro es hes
    simp only [Function.comp]
    rw [powN_eq_pow, powN_eq_pow, powN_eq_pow, us_eq _ hgwf.1, hnt, interfaceCount_eq G hnd,
      List.toFinset_card_of_nodup (hes.nodup hgnd), List.toFinset_card_of_nodup hgnd]

/-- in a simple graph the interface edges of `{r}` correspond to the distinct neighbours of `r` -/
theorem card_bdry_singleton {es : List Edge} (hs : Simple es) (r : Nat) :
    (Perc.bdry es.toFinset [r].toFinset).card = (dedup (nbrs es r)).length := by
  rw [dedup_length]
  -- an interface edge is `(r, b)` or `(b, r)` with `b ≠ r`; send it to `b`.  Only one of the two is listed.
  have hmem : ∀ {e : Edge}, e ∈ Perc.bdry es.toFinset [r].toFinset →
      e ∈ es ∧ ∃ b, b ≠ r ∧ (if e.1 = r then e.2 else e.1) = b ∧ (e = (r, b) ∨ e = (b, r)) := by
    rintro ⟨x, y⟩ he
    simp only [Perc.mem_bdry, List.mem_toFinset, List.mem_singleton] at he
    refine ⟨he.1, ?_⟩
    by_cases hx : x = r
    · exact ⟨y, fun hy => he.2.1 ⟨hx, hy⟩, if_pos hx, Or.inl (hx ▸ rfl)⟩
    · exact ⟨x, hx, if_neg hx, Or.inr (by rw [not_not.1 fun hy => he.2.2 ⟨hx, hy⟩])⟩
  have hbd : ∀ {a b : Nat}, (a, b) ∈ es → (a = r ∧ b ≠ r) ∨ (a ≠ r ∧ b = r) →
      (a, b) ∈ Perc.bdry es.toFinset [r].toFinset := fun hab h => by
    simp only [Perc.mem_bdry, List.mem_toFinset, List.mem_singleton]
    exact ⟨hab, fun h' => h.elim (fun h => h.2 h'.2) fun h => h.1 h'.1,
      fun h' => h.elim (fun h => h'.1 h.1) fun h => h'.2 h.2⟩
  refine Finset.card_bij (fun e _ => if e.1 = r then e.2 else e.1) ?_ ?_ ?_
  · intro e he
    obtain ⟨hes, b, -, hb, rfl | rfl⟩ := hmem he <;> rw [hb, List.mem_toFinset, mem_nbrs]
    exacts [Or.inl hes, Or.inr hes]
  · intro e he e' he' heq
    obtain ⟨hes, b, -, hb, h⟩ := hmem he
    obtain ⟨hes', b', -, hb', h'⟩ := hmem he'
    obtain rfl : b = b' := hb.symm.trans (heq.trans hb')
    rcases h with rfl | rfl <;> rcases h' with rfl | rfl
    exacts [rfl, absurd hes' (hs.2.2 _ hes), absurd hes (hs.2.2 _ hes'), rfl]
  · intro b hb
    rw [List.mem_toFinset, mem_nbrs] at hb
    rcases hb with hb | hb
    · have hne : b ≠ r := fun h => hs.2.1 _ hb h.symm
      exact ⟨(r, b), hbd hb (Or.inl ⟨rfl, hne⟩), if_pos rfl⟩
    · have hne : b ≠ r := hs.2.1 _ hb
      exact ⟨(b, r), hbd hb (Or.inr ⟨hne, rfl⟩), if_neg hne⟩

/-- the model's term for the component `{root}` -/
theorem componentTerm_single {R : Type} [CommRing R] (G : Motif) (hs : Simple G.edges) {root : Nat}
    (hr : root ∈ G.nodes) (p : R) (u : Nat → R) :
    componentTerm G p u root [root] [] = Perc.term G.nodes.toFinset G.edges.toFinset p u root [root].toFinset := by
  have hI : Perc.inner G.edges.toFinset [root].toFinset = ∅ := by
    refine Finset.filter_false_of_mem fun e he h => hs.2.1 e (List.mem_toFinset.1 he) ?_
    simp only [List.mem_toFinset, List.mem_singleton] at h
    exact h.1.trans h.2.symm
  have hcomp : Perc.comp G.nodes.toFinset ∅ root = [root].toFinset := by
    refine (Perc.comp_eq_iff_closed _ ∅ (fun e he => absurd he (Finset.notMem_empty e)) root _ (by simp)).2
      ⟨by simpa using hr, fun v hv => ?_, fun e he => absurd he (Finset.notMem_empty e)⟩
    obtain rfl : v = root := by simpa using hv
    exact Relation.ReflTransGen.refl
  unfold Perc.term
  rw [hI, Finset.powerset_empty, Finset.prod_const, card_bdry_singleton hs root, Finset.sum_filter,
    Finset.sum_singleton, if_pos hcomp]
  simp only [componentTerm, List.length_singleton, if_true, List.headD_cons, powN_eq_pow, Perc.wt_empty,
    Finset.prod_empty, mul_one, List.toFinset_cons, List.toFinset_nil, insert_empty_eq, Finset.erase_singleton]

theorem componentTerm_eq {R : Type} [CommRing R] (G : Motif) (hwf : WFGraph G.edges G.nodes)
    (hs : Simple G.edges) {root : Nat} (hr : root ∈ G.nodes) (p : R) (u : Nat → R) (c : List Nat)
    (hc : c.Nodup) (hS : IsConnSet G root c.toFinset) :
    componentTerm G p u root c (if c.length = 1 then [] else edgeCombinations (inner G c))
      = Perc.term G.nodes.toFinset G.edges.toFinset p u root c.toFinset := by
  by_cases hlen : c.length = 1
  · obtain ⟨x, rfl⟩ := List.length_eq_one_iff.1 hlen
    have hx : root = x := by simpa using hS.1
    subst hx
    simp only [List.length_singleton, if_true]
    exact componentTerm_single G hs hr p u
  · rw [if_neg hlen]
    exact componentTerm_big G hwf hs.1 p u c hc hS hlen

/-- the finset-level component decomposition is what the model computes: the vertex sets with a non-zero term are
the connected ones, which `connectedSubgraphs` lists once each -/
theorem percAutoE_eq_automatedEquation {R : Type} [CommRing R] (G : Motif)
    (hwf : WFGraph G.edges G.nodes) (hs : Simple G.edges) {root : Nat} (hr : root ∈ G.nodes) (p : R)
    (u : Nat → R) :
    Perc.autoE G.nodes.toFinset G.edges.toFinset p u root = automatedEquation G p u root := by
  obtain ⟨h1, h2, h3⟩ := connectedSubgraphs_spec G root hwf hr
  rw [Perc.autoE_eq_sum_of_fibers _ _ _ _ _ (T := ((connectedSubgraphs G root).map List.toFinset).toFinset)
      (fun S hS => by
        rw [List.mem_toFinset, h3] at hS
        exact ⟨fun v hv => List.mem_toFinset.2 (hS.2.1 v hv), hS.1⟩)
      (fun S hSV hrS F hF hcF => List.mem_toFinset.2 ((h3 S).2 (isConnSet_of_fiber hSV hrS hF hcF))),
    List.sum_toFinset _ h2, List.map_map]
  unfold automatedEquation
  rw [foldl_add_eq_sum (fun c => componentTerm G p u root c
    (if c.length = 1 then [] else edgeCombinations (inner G c))), zero_add]
  congr 1
  apply List.map_congr_left
  intro c hc
  exact (componentTerm_eq G hwf hs hr p u c (h1 c hc) ((h3 _).1 (List.mem_map.2 ⟨c, hc, rfl⟩))).symm

theorem exactE_eq_percAutoE {R : Type} [CommRing R] (G : Motif) (hwf : WFGraph G.edges G.nodes)
    (hnd : G.edges.Nodup) {root : Nat} (hr : root ∈ G.nodes) (p : R) (u : Nat → R) :
    exactE G p u root = Perc.autoE G.nodes.toFinset G.edges.toFinset p u root := by
  rw [exactE_eq_percExactE G hwf hnd hr]
  exact Perc.exactE_eq_autoE _ _
    (fun e he => by
      have := hwf.2 e (List.mem_toFinset.1 he)
      exact ⟨List.mem_toFinset.2 this.1, List.mem_toFinset.2 this.2⟩)
    p u root (List.mem_toFinset.2 hr)

end Gcmpy.Automated
