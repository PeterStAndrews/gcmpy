import GcmpyModel.Model.Handshake
/-! The handshaking-lemma repair: the arithmetic of `need`, and what `bump`, `patchCol`, `patchAll` and `handshake`
add to each column (`Adds`). -/
namespace Gcmpy.Handshake
open Gcmpy.Generate

/-- entry `i` of row `v` (0 outside the sequence) -/
def deg (jds : List (List Nat)) (v i : Nat) : Nat := (jds.getD v []).getD i 0

def Rect (jds : List (List Nat)) (T : Nat) : Prop := ∀ r ∈ jds, r.length = T

theorem filter_range_eq (T k : Nat) : (List.range T).filter (· = k) = if k < T then [k] else [] := by
  rw [List.filter_eq, List.count_range]; split <;> rfl

theorem getD_modify_succ (r : List Nat) (i k : Nat) :
    (r.modify i (· + 1)).getD k 0 = r.getD k 0 + if k = i ∧ i < r.length then 1 else 0 := by
  simp only [List.getD_eq_getElem?_getD, List.getElem?_modify]
  by_cases h : i = k
  · subst h; by_cases h2 : i < r.length <;> simp [h2]
  · simp [h, Ne.symm h]

theorem bump_cons_zero (r : List Nat) (rs : List (List Nat)) (i : Nat) :
    bump (r :: rs) 0 i = r.modify i (· + 1) :: rs := rfl

theorem bump_cons_succ (r : List Nat) (rs : List (List Nat)) (j i : Nat) :
    bump (r :: rs) (j + 1) i = r :: bump rs j i := rfl

theorem colSum_nil (k : Nat) : colSum [] k = 0 := rfl

theorem _root_.Gcmpy.Generate.colSum_cons (r : List Nat) (rs : List (List Nat)) (k : Nat) :
    colSum (r :: rs) k = r.getD k 0 + colSum rs k := by
  simp [colSum]

theorem _root_.Gcmpy.Generate.ncols_of_rect (jds : List (List Nat)) (T : Nat) (hR : Rect jds T) (hN : jds ≠ []) :
    ncols jds = T := by
  induction jds with
  | nil => exact absurd rfl hN
  | cons r rs ih =>
    cases rs with
    | nil => exact hR r List.mem_cons_self
    | cons r' rs' =>
      have := ih (fun x hx => hR x (List.mem_cons_of_mem _ hx)) (List.cons_ne_nil _ _)
      simp only [ncols] at this ⊢
      rw [this, hR r List.mem_cons_self, Nat.min_self]

theorem colSum_mono (jds jds' : List (List Nat)) (hlen : jds'.length = jds.length)
    (hle : ∀ v i, deg jds v i ≤ deg jds' v i) (i : Nat) : colSum jds i ≤ colSum jds' i := by
  induction jds generalizing jds' with
  | nil => simp [colSum_nil]
  | cons r rs ih =>
    cases jds' with
    | nil => simp at hlen
    | cons r' rs' =>
      have h0 : r.getD i 0 ≤ r'.getD i 0 := hle 0 i
      have h1 := ih rs' (by simpa using hlen) fun v k => hle (v + 1) k
      rw [colSum_cons, colSum_cons]; omega

theorem need_eq (s n : Nat) (hs : 0 < s) : need s n = (s - n % s) % s := by
  unfold need
  have := Nat.mod_lt n hs
  split
  · exact (Nat.mod_eq_of_lt (by omega)).symm
  · rw [show n % s = 0 by omega, Nat.sub_zero, Nat.mod_self]

theorem need_lt (s n : Nat) (hs : 0 < s) : need s n < s := by
  rw [need_eq s n hs]; exact Nat.mod_lt _ hs

theorem need_of_dvd (s n : Nat) (h : s ∣ n) : need s n = 0 := by
  simp [need, Nat.mod_eq_zero_of_dvd h]

theorem dvd_add_need (s n : Nat) (hs : 0 < s) : s ∣ n + need s n := by
  unfold need
  have hlt := Nat.mod_lt n hs
  have hdiv := Nat.mod_add_div n s
  split
  · exact ⟨n / s + 1, by rw [Nat.mul_add, Nat.mul_one]; omega⟩
  · exact ⟨n / s, by omega⟩

/-- `n + need s n` is the least multiple of `s` that is `≥ n` -/
theorem add_need_le (s n m : Nat) (hs : 0 < s) (hnm : n ≤ m) (hd : s ∣ m) : n + need s n ≤ m := by
  -- both are multiples of `s`; a smaller multiple `m` would be below `n`, because `need s n < s`
  obtain ⟨q, hq⟩ := dvd_add_need s n hs
  obtain ⟨q', rfl⟩ := hd
  have hlt := need_lt s n hs
  rcases Nat.lt_or_ge q' q with h | h
  · have := Nat.mul_le_mul_left s (Nat.succ_le_of_lt h)
    rw [Nat.mul_succ] at this
    omega
  · have := Nat.mul_le_mul_left s h
    omega

/-! ### what a repair adds

`Adds T jds jds' a`: `jds'` is a `T`-column sequence of the same length as `jds`, pointwise at least `jds`,
with `a k` more stubs in column `k`.  One `bump` adds a unit; the loops compose. -/

structure Adds (T : Nat) (jds jds' : List (List Nat)) (a : Nat → Nat) : Prop where
  length : jds'.length = jds.length
  rect : Rect jds' T
  mono : ∀ v k, deg jds v k ≤ deg jds' v k
  colSum : ∀ k, colSum jds' k = colSum jds k + a k

theorem Adds.refl {T : Nat} {jds : List (List Nat)} (hR : Rect jds T) : Adds T jds jds fun _ => 0 :=
  ⟨rfl, hR, fun _ _ => Nat.le_refl _, fun _ => rfl⟩

theorem Adds.trans {T : Nat} {j1 j2 j3 : List (List Nat)} {a b : Nat → Nat}
    (h1 : Adds T j1 j2 a) (h2 : Adds T j2 j3 b) : Adds T j1 j3 fun k => a k + b k :=
  ⟨h2.length.trans h1.length, h2.rect, fun v k => Nat.le_trans (h1.mono v k) (h2.mono v k),
    fun k => by rw [h2.colSum, h1.colSum, Nat.add_assoc]⟩

theorem Adds.congr {T : Nat} {jds jds' : List (List Nat)} {a b : Nat → Nat} (h : Adds T jds jds' a)
    (hab : ∀ k, a k = b k) : Adds T jds jds' b :=
  (funext hab : a = b) ▸ h

theorem adds_bump {T : Nat} {jds : List (List Nat)} (hR : Rect jds T) {j i : Nat} (hj : j < jds.length) (hi : i < T) :
    Adds T jds (bump jds j i) fun k => if k = i then 1 else 0 := by
  refine ⟨by simp [bump], ?_, fun v k => ?_, fun k => ?_⟩
  · intro r hr
    obtain ⟨n, hn, rfl⟩ := List.getElem_of_mem hr
    simp only [bump, List.getElem_modify]
    split
    · rw [List.length_modify]; exact hR _ (List.getElem_mem _)
    · exact hR _ (List.getElem_mem _)
  · simp only [deg, bump, List.getD_eq_getElem?_getD, List.getElem?_modify]
    by_cases h : j = v
    · cases jds[v]? <;> simp [h, ← List.getD_eq_getElem?_getD, getD_modify_succ]
    · simp [h]
  · induction jds generalizing j with
    | nil => cases hj
    | cons r rs ih =>
      cases j with
      | zero =>
        rw [bump_cons_zero, colSum_cons, colSum_cons, getD_modify_succ, hR r List.mem_cons_self]
        simp only [hi, and_true]; omega
      | succ j =>
        rw [bump_cons_succ, colSum_cons, colSum_cons,
          ih (fun x hx => hR x (List.mem_cons_of_mem _ hx)) (by simpa using hj)]
        omega

theorem patchCol_snd (i n : Nat) (jds : List (List Nat)) (picks : List Nat) :
    (patchCol i n jds picks).2 = picks.drop n := by
  induction n generalizing jds picks with
  | zero => simp [patchCol]
  | succ n ih => rw [patchCol, ih]; cases picks <;> simp

/-- in-range picks on a non-empty sequence: an exhausted pick list yields the pick 0, which is a row only if there
    is one -/
def PicksOk (jds : List (List Nat)) (picks : List Nat) : Prop := jds ≠ [] ∧ ∀ p ∈ picks, p < jds.length

theorem PicksOk.of_adds {T : Nat} {jds jds' : List (List Nat)} {a : Nat → Nat} {picks picks' : List Nat}
    (h : PicksOk jds picks) (hA : Adds T jds jds' a) (hsub : ∀ p ∈ picks', p ∈ picks) : PicksOk jds' picks' :=
  ⟨fun e => h.1 (List.length_eq_zero_iff.1 (by rw [← hA.length, e]; rfl)),
    fun p hp => hA.length ▸ h.2 p (hsub p hp)⟩

theorem patchCol_adds (T i n : Nat) (jds : List (List Nat)) (picks : List Nat) (hR : Rect jds T)
    (hp : PicksOk jds picks) (hi : i < T) :
    Adds T jds (patchCol i n jds picks).1 fun k => if k = i then n else 0 := by
  induction n generalizing jds picks with
  | zero => exact (Adds.refl hR).congr fun k => by simp
  | succ n ih =>
    have hj : picks.headD 0 < jds.length := by
      cases picks with
      | nil => exact List.length_pos_iff.2 hp.1
      | cons p ps => exact hp.2 p List.mem_cons_self
    have hb := adds_bump hR hj hi
    rw [patchCol]
    exact (hb.trans (ih _ _ hb.rect (hp.of_adds hb fun p => List.mem_of_mem_tail))).congr fun k => by
      split <;> omega

theorem patchAll_snd (sizes : List Nat) (l : List (Nat × Nat)) (jds : List (List Nat)) (picks : List Nat) :
    (patchAll sizes l jds picks).2 = picks.drop (l.map fun p => need (sizes.getD p.2 0) p.1).sum := by
  induction l generalizing jds picks with
  | nil => simp [patchAll]
  | cons p r ih =>
    simp only [patchAll]
    rw [ih, patchCol_snd, List.drop_drop]
    simp

/-- each pair `(ntop, i)` adds `need (sizes[i]) ntop` stubs to column `i`, whatever the column holds by then:
    the column sums were computed once, before the loop -/
theorem patchAll_adds (sizes : List Nat) (T : Nat) (l : List (Nat × Nat)) (jds : List (List Nat))
    (picks : List Nat) (hR : Rect jds T) (hp : PicksOk jds picks) (hl : ∀ p ∈ l, p.2 < T) :
    Adds T jds (patchAll sizes l jds picks).1 fun k =>
      ((l.filter (·.2 = k)).map fun p => need (sizes.getD k 0) p.1).sum := by
  induction l generalizing jds picks with
  | nil => exact Adds.refl hR
  | cons p r ih =>
    obtain ⟨ntop, i⟩ := p
    have hc := patchCol_adds T i (need (sizes.getD i 0) ntop) jds picks hR hp (hl _ List.mem_cons_self)
    simp only [patchAll]
    refine (hc.trans (ih _ _ hc.rect (hp.of_adds hc fun p hp' => ?_)
      fun p hp' => hl p (List.mem_cons_of_mem _ hp'))).congr fun k => ?_
    · rw [patchCol_snd] at hp'; exact List.mem_of_mem_drop hp'
    · rw [List.filter_cons]
      by_cases hk : k = i
      · subst hk; simp
      · simp [hk, Ne.symm hk]

theorem handshake_adds (sizes : List Nat) (T : Nat) (jds : List (List Nat)) (picks : List Nat)
    (hR : Rect jds T) (hN : jds ≠ []) (hp : ∀ p ∈ picks, p < jds.length) :
    Adds T jds (handshake sizes jds picks) fun k => if k < T then need (sizes.getD k 0) (colSum jds k) else 0 := by
  rw [handshake, ncols_of_rect jds T hR hN]
  refine (patchAll_adds sizes T _ jds picks hR ⟨hN, hp⟩ fun p hp' => ?_).congr fun k => ?_
  · obtain ⟨i, hi, rfl⟩ := List.mem_map.1 hp'; exact List.mem_range.1 hi
  · have : ((fun p : Nat × Nat => decide (p.2 = k)) ∘ fun i => (colSum jds i, i)) = (· = k) := rfl
    rw [List.filter_map, List.map_map, this, filter_range_eq]
    split <;> rfl

theorem patchAll_noop (sizes : List Nat) (l : List (Nat × Nat)) (jds : List (List Nat)) (picks : List Nat)
    (h : ∀ p ∈ l, need (sizes.getD p.2 0) p.1 = 0) : patchAll sizes l jds picks = (jds, picks) := by
  induction l with
  | nil => rfl
  | cons p r ih =>
    simp only [patchAll, h p List.mem_cons_self, patchCol]
    exact ih fun p hp => h p (List.mem_cons_of_mem _ hp)

theorem handshake_noop (sizes : List Nat) (jds : List (List Nat)) (picks : List Nat)
    (h : ∀ i < ncols jds, sizes.getD i 0 ∣ colSum jds i) : handshake sizes jds picks = jds := by
  rw [handshake, patchAll_noop]
  intro p hp
  obtain ⟨i, hi, rfl⟩ := List.mem_map.1 hp
  exact need_of_dvd _ _ (h i (List.mem_range.1 hi))

end Gcmpy.Handshake
