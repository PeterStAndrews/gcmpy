import GcmpyModel.Lemmas.Rewire
import GcmpyModel.Properties.C12
/-! Lemmas lifting C12's per-call theorem to the whole `rewire()` run; property theorems in
`Properties/C12Loop.lean`. -/
namespace Gcmpy.Rewire
open Gcmpy Gcmpy.Graph Gcmpy.MCMC

/-- the entry `p = ((a, b), ⟨topology, id⟩)` joins a pairing the target allows with weight satisfying `ok` -/
def EntryWith (ok : Rat → Prop) (G₀ : Net) (names : List String) (target : Target) (p : Edge × Attr) : Prop :=
  ∃ i ejk w, topIndex names p.2.top = some i ∧ Dict.get target p.2.top = some ejk ∧ ok w ∧
    (Dict.get ejk (excessOf G₀ p.1.1 i ++ excessOf G₀ p.1.2 i) = some w ∨
     Dict.get ejk (excessOf G₀ p.1.2 i ++ excessOf G₀ p.1.1 i) = some w)

abbrev AllowedEntry := EntryWith (· ≠ 0)
abbrev PositiveEntry := EntryWith (0 < ·)

namespace Lemmas

theorem excessOf_congr {G G' : Net} (h : G'.jd = G.jd) (v i : Nat) : excessOf G' v i = excessOf G v i := by
  unfold excessOf jdOf
  rw [h]

/-- a created entry: the key is normalised afterwards, so the looked-up orientation is one of the two -/
theorem entryWith_of {ok : Rat → Prop} {G₀ : Net} {names : List String} {target : Target} {x y : Nat} {attr : Attr}
    {i : Nat} {ejk : Loaders.Table} {w : Rat} (hi : topIndex names attr.top = some i)
    (he : Dict.get target attr.top = some ejk) (hw : ok w)
    (hk : Dict.get ejk (excessOf G₀ x i ++ excessOf G₀ y i) = some w) :
    EntryWith ok G₀ names target (normE (x, y), attr) := by
  rcases normE_cases x y with h | h <;> rw [h]
  · exact ⟨i, ejk, w, hi, he, hw, Or.inl hk⟩
  · exact ⟨i, ejk, w, hi, he, hw, Or.inr hk⟩

/-- what C12 says of one accepted call, for a property `ok` of the two looked-up weights -/
def AcceptGives (ok : Rat → Prop) (names : List String) (target : Target) : Prop :=
  ∀ (G : Net) (u0 v0 : Nat) (e0s e1s : List Edge) (r : Rat),
    swapCondition G names target u0 v0 e0s e1s r = .accept →
    ∃ ps, pairUp G e0s e1s = some ps ∧ ∀ p ∈ ps, ∃ a0 i ejk a b,
      attrOf G p.1.1 p.1.2 = some a0 ∧ topIndex names a0.top = some i ∧ Dict.get target a0.top = some ejk ∧
      Dict.get ejk (excessOf G u0 i ++ excessOf G p.2.2 i) = some a ∧
      Dict.get ejk (excessOf G v0 i ++ excessOf G p.1.2 i) = some b ∧ ok a ∧ ok b

/-- the entries of an edge table after an accepted swap (either attribute assignment, as long as both new entries
    of a pair carry the topology of the pair) are old entries or created ones with an `ok` weight -/
theorem after_entries {ok : Rat → Prop} {names : List String} {target : Target} {G₀ G1 : Net} {u0 v0 : Nat}
    {e0s e1s : List Edge} {r : Rat} {ps : List (Edge × Edge)} (hAG : AcceptGives ok names target)
    (hjd : G1.jd = G₀.jd) (hd : swapCondition G1 names target u0 v0 e0s e1s r = .accept)
    (hps : pairUp G1 e0s e1s = some ps) (α β : Edge × Edge → Attr)
    (hα : ∀ q ∈ ps, (α q).top = (attrD G1 q.1).top) (hβ : ∀ q ∈ ps, (β q).top = (attrD G1 q.1).top)
    (hold : ∀ p ∈ G1.edges, p ∈ G₀.edges ∨ EntryWith ok G₀ names target p) :
    ∀ p ∈ afterEdges G1 u0 v0 e0s e1s α β ps, p ∈ G₀.edges ∨ EntryWith ok G₀ names target p := by
  intro p hp
  unfold afterEdges at hp
  rcases List.mem_append.1 hp with hp | hp
  · exact hold p (List.mem_filter.1 hp).1
  · right
    obtain ⟨ps', hps', hall⟩ := hAG G1 u0 v0 e0s e1s r hd
    rw [hps, Option.some.injEq] at hps'
    subst hps'
    obtain ⟨q, hq, hpq⟩ := mem_newE.1 hp
    obtain ⟨a0, i, ejk, a, b, h1, h2, h3, h4, h5, ha, hb⟩ := hall q hq
    have ha0 : attrD G1 q.1 = a0 := attrD_eq h1
    simp only [excessOf_congr hjd] at h4 h5
    rcases hpq with rfl | rfl
    · exact entryWith_of (by rw [hα q hq, ha0]; exact h2) (by rw [hα q hq, ha0]; exact h3) ha h4
    · exact entryWith_of (by rw [hβ q hq, ha0]; exact h2) (by rw [hβ q hq, ha0]; exact h3) hb h5

theorem rewire_entries (ok : Rat → Prop) (cfg : Cfg) (G : Net) (evs : List DrawEv) (rs : List (Option Rat))
    (hWF : WF G) (hAG : AcceptGives ok cfg.names cfg.target) :
    ∀ p ∈ (rewire cfg G evs rs).st.G.edges, p ∈ G.edges ∨ EntryWith ok G cfg.names cfg.target p := by
  unfold rewire
  -- invariant: the structural invariants (so excess degrees are those of the input) and the claim itself
  refine (outer_main cfg
    (fun G' => Preserves G G' ∧ ∀ p ∈ G'.edges, p ∈ G.edges ∨ EntryWith ok G cfg.names cfg.target p)
    (fun _ h => h.1.1) ?_ _ _ _ _ _
    ⟨.refl hWF, fun p hp => Or.inl hp⟩ (init_sync G hWF) rfl).1.2
  intro G1 u0 v0 e0s e1s r G' hI hok hd ha
  refine ⟨hI.1.trans (applyB_preserves cfg.fixed hok ha), ?_⟩
  obtain ⟨A, B, ps, α, β, F, P, hps, hα, hβ, rfl⟩ := applyB_eq cfg.fixed hok ha
  exact after_entries hAG hI.1.2.1 hd hps α β hα hβ hI.2

theorem rewire_created_edges_allowed (cfg : Cfg) (G : Net) (evs : List DrawEv) (rs : List (Option Rat))
    (hWF : WF G) :
    ∀ p ∈ (rewire cfg G evs rs).st.G.edges, p ∈ G.edges ∨ AllowedEntry G cfg.names cfg.target p :=
  rewire_entries (· ≠ 0) cfg G evs rs hWF (fun _ _ _ _ _ _ h => created_edges_allowed h)

theorem rewire_created_edges_positive (cfg : Cfg) (G : Net) (evs : List DrawEv) (rs : List (Option Rat))
    (hWF : WF G) (hnn : ∀ t ejk, Dict.get cfg.target t = some ejk → ∀ x ∈ ejk, 0 ≤ x.2) :
    ∀ p ∈ (rewire cfg G evs rs).st.G.edges, p ∈ G.edges ∨ PositiveEntry G cfg.names cfg.target p :=
  rewire_entries (0 < ·) cfg G evs rs hWF (fun _ _ _ _ _ _ h => created_edges_positive h hnn)
end Lemmas
end Gcmpy.Rewire
