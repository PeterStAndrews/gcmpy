import GcmpyModel.Lemmas.Generate
/-!
The model concatenates the popped chunks of one motif instance into one flat `verts` list, which forgets
from which orbit column each vertex came.  We define a *tagged* refinement (`popOrbitsT`, `instancesT`,
`drawAllT`, `runCustomT`) which returns the popped chunks as `(column, chunk)` pairs and also the final
partitions, prove that forgetting the tags gives exactly the model's results, prove the conservation
invariant `parts[i] = parts'[i] ++ (chunks popped from i).reverse`, and that which columns a run pops from, in
which order (its `shape`), is fixed by the orbit lists and the number of stubs alone.
-/
namespace Gcmpy.Generate

/-- a list of popped chunks, each tagged with the orbit column it was popped from -/
abbrev Tagged := List (Nat × List Nat)

/-- forget the tags: the concatenation of the chunks, in pop order -/
def untag (tcs : Tagged) : List Nat := tcs.flatMap (·.2)

/-- the chunks popped from column `i`, in pop order -/
def popped (i : Nat) (tcs : Tagged) : List (List Nat) := (tcs.filter (fun t => t.1 = i)).map (·.2)

def popOrbitsT : List (List (List Nat)) → List Nat → Option (Tagged × List (List (List Nat)))
  | parts, [] => some ([], parts)
  | parts, i :: is =>
    match parts[i]? with
    | none => none
    | some p =>
      match p.getLast? with
      | none => none
      | some c =>
        match popOrbitsT (parts.set i p.dropLast) is with
        | none => none
        | some (tcs, parts') => some ((i, c) :: tcs, parts')

def instancesT (orbits : List Nat) : Nat → List (List (List Nat)) →
    Option (List Tagged × List (List (List Nat)))
  | 0, parts => some ([], parts)
  | n+1, parts =>
    match popOrbitsT parts orbits with
    | none => none
    | some (tcs, parts') =>
      match instancesT orbits n parts' with
      | none => none
      | some (rest, parts'') => some (tcs :: rest, parts'')

/-- also returns the final partitions -/
def drawAllT (sizes : List Nat) (σ : List (List Nat)) :
    List (List Nat) → Nat → List (List (List Nat)) → Option (List (Nat × Tagged) × List (List (List Nat)))
  | [], _, parts => some ([], parts)
  | orbits :: rest, j, parts =>
    match orbits with
    | [] => none
    | kk :: _ =>
      match σ[kk]?, sizes[kk]? with
      | some l, some sz =>
        if sz = 0 then none else
        match instancesT orbits (l.length / sz) parts with
        | none => none
        | some (tcss, parts') =>
          match drawAllT sizes σ rest (j + 1) parts' with
          | none => none
          | some (more, parts'') => some (tcss.map (fun tcs => (j, tcs)) ++ more, parts'')
      | _, _ => none

/-- the whole tagged run: tagged groups in generation order and the final (leftover) partitions -/
def runCustomT (sizes : List Nat) (orbitLists : List (List Nat)) (σ : List (List Nat)) :
    Option (List (Nat × Tagged) × List (List (List Nat))) :=
  drawAllT sizes σ orbitLists 0 (partitions sizes σ)

/-- the motif records made from tagged groups (ids from the running counter, `verts` = untagged chunks) -/
def recordsOf {β : Type} (build : Nat → List Nat → β) (gs : List (Nat × Tagged)) : List (Motif β) :=
  gs.zipIdx.map fun ((j, tcs), id) => ⟨j, id, untag tcs, build j (untag tcs)⟩

/-- all tagged chunks of a run, in pop order -/
def allTagged (gs : List (Nat × Tagged)) : Tagged := gs.flatMap (·.2)

theorem mem_untag {tcs : Tagged} {v : Nat} : v ∈ untag tcs ↔ ∃ t ∈ tcs, v ∈ t.2 := List.mem_flatMap

theorem length_untag (tcs : Tagged) : (untag tcs).length = (tcs.map fun t => t.2.length).sum :=
  List.length_flatMap

theorem mem_allTagged {gs : List (Nat × Tagged)} {t : Nat × List Nat} :
    t ∈ allTagged gs ↔ ∃ g ∈ gs, t ∈ g.2 :=
  List.mem_flatMap

theorem popOrbits_eq_T (parts : List (List (List Nat))) (is : List Nat) :
    popOrbits parts is = (popOrbitsT parts is).map fun r => (untag r.1, r.2) := by
  fun_induction popOrbitsT parts is <;> simp [popOrbits, untag, *]

theorem instances_eq_T (orbits : List Nat) (n : Nat) (parts : List (List (List Nat))) :
    instances orbits n parts = (instancesT orbits n parts).map fun r => (r.1.map untag, r.2) := by
  fun_induction instancesT orbits n parts <;> simp [instances, popOrbits_eq_T, *]

theorem drawAll_eq_T (sizes : List Nat) (σ : List (List Nat)) (rest : List (List Nat)) (j : Nat)
    (parts : List (List (List Nat))) :
    drawAll sizes σ rest j parts =
      (drawAllT sizes σ rest j parts).map fun r => r.1.map fun g => (g.1, untag g.2) := by
  fun_induction drawAllT sizes σ rest j parts <;> simp [drawAll, instances_eq_T, Function.comp_def, *]

theorem recordsOf_eq {β : Type} (build : Nat → List Nat → β) (gs : List (Nat × Tagged)) :
    recordsOf build gs = records build (gs.map fun g => (g.1, untag g.2)) := by
  rw [records, List.zipIdx_map, List.map_map]
  rfl

theorem mem_recordsOf {β : Type} (build : Nat → List Nat → β) {gs : List (Nat × Tagged)} {m : Motif β}
    (hm : m ∈ recordsOf build gs) : ∃ g ∈ gs, m.top = g.1 ∧ m.verts = untag g.2 := by
  have := List.mem_map_of_mem (f := fun m => (m.top, m.verts)) hm
  rw [recordsOf_eq, records_proj] at this
  obtain ⟨g, hg, e⟩ := List.mem_map.1 this
  exact ⟨g, hg, (Prod.ext_iff.1 e.symm)⟩

theorem motifsCustom_eq_T {β : Type} (sizes : List Nat) (orbitLists : List (List Nat))
    (build : Nat → List Nat → β) (σ : List (List Nat)) :
    motifsCustom sizes orbitLists build σ = (runCustomT sizes orbitLists σ).map fun r => recordsOf build r.1 := by
  simp only [motifsCustom, runCustomT, drawAll_eq_T, Option.map_map, Function.comp_def, recordsOf_eq]
  rfl

@[simp] theorem popped_nil (i : Nat) : popped i [] = [] := rfl

theorem popped_append (i : Nat) (a b : Tagged) : popped i (a ++ b) = popped i a ++ popped i b := by
  simp [popped]

theorem length_popped (i : Nat) (tcs : Tagged) : (popped i tcs).length = (tcs.map (·.1)).count i := by
  rw [popped, List.length_map, List.count_eq_countP, List.countP_map, List.countP_eq_length_filter]
  rfl

theorem mem_popped {i : Nat} {tcs : Tagged} {c : List Nat} : c ∈ popped i tcs ↔ (i, c) ∈ tcs := by
  simp [popped]

/-- `parts'` is `parts` after the chunks in `tcs` have been popped, each from the end of its column, in this order -/
def Conserved (parts parts' : List (List (List Nat))) (tcs : Tagged) : Prop :=
  parts'.length = parts.length ∧ ∀ i, parts.getD i [] = parts'.getD i [] ++ (popped i tcs).reverse

theorem Conserved.refl (parts : List (List (List Nat))) : Conserved parts parts [] :=
  ⟨rfl, fun i => by simp⟩

theorem Conserved.trans {p1 p2 p3 : List (List (List Nat))} {a b : Tagged}
    (h1 : Conserved p1 p2 a) (h2 : Conserved p2 p3 b) : Conserved p1 p3 (a ++ b) := by
  refine ⟨h2.1.trans h1.1, fun i => ?_⟩
  rw [h1.2 i, h2.2 i, popped_append, List.reverse_append, List.append_assoc]

/-- one `pop()`: the last chunk of column `i` -/
theorem Conserved.pop {parts : List (List (List Nat))} {i : Nat} {p : List (List Nat)} {c : List Nat}
    (hp : parts[i]? = some p) (hc : p.getLast? = some c) : Conserved parts (parts.set i p.dropLast) [(i, c)] := by
  obtain ⟨q, rfl⟩ := List.getLast?_eq_some_iff.1 hc
  refine ⟨List.length_set, fun k => ?_⟩
  rw [List.getD_eq_getElem?_getD, List.getD_eq_getElem?_getD, List.getElem?_set]
  by_cases hk : i = k
  · subst hk; obtain ⟨hi, hpi⟩ := List.getElem?_eq_some_iff.1 hp; simp [popped, hi, hpi]
  · simp [popped, hk]

theorem Conserved.length {parts parts' : List (List (List Nat))} {tcs : Tagged} (h : Conserved parts parts' tcs)
    (i : Nat) : (parts.getD i []).length = (parts'.getD i []).length + (popped i tcs).length := by
  rw [h.2 i]; simp

theorem Conserved.mem {parts parts' : List (List (List Nat))} {tcs : Tagged} (h : Conserved parts parts' tcs)
    {i : Nat} {c : List Nat} (hc : (i, c) ∈ tcs) : c ∈ parts.getD i [] := by
  rw [h.2 i]
  exact List.mem_append_right _ (List.mem_reverse.2 (mem_popped.2 hc))

theorem Conserved.le_of_add {parts parts' : List (List (List Nat))} {tcs : Tagged} (hc : Conserved parts parts' tcs)
    {i a b : Nat} (ha : (tcs.map (·.1)).count i = a) (h : a + b ≤ (parts.getD i []).length) :
    b ≤ (parts'.getD i []).length := by
  have := hc.length i
  rw [length_popped, ha] at this
  omega

/-! ### what a run pops, and in which order

The columns a run pops from do not depend on the stubs: motif type `j` is instantiated `numMotifs` times in a
row, each instance popping its orbit list in order. -/

theorem popOrbitsT_spec {parts : List (List (List Nat))} {is : List Nat} :
    ∀ {r}, popOrbitsT parts is = some r → r.1.map (·.1) = is ∧ Conserved parts r.2 r.1 := by
  fun_induction popOrbitsT parts is with
  | case1 parts => rintro _ ⟨⟩; exact ⟨rfl, .refl _⟩
  | case2 | case3 | case4 => rintro _ ⟨⟩
  | case5 parts i is p hp c hc tcs parts' hr ih =>
    rintro _ ⟨⟩
    exact ⟨congrArg (i :: ·) (ih hr).1, (Conserved.pop hp hc).trans (ih hr).2⟩

theorem instancesT_spec {orbits : List Nat} {n : Nat} {parts : List (List (List Nat))} :
    ∀ {r}, instancesT orbits n parts = some r →
      r.1.map (·.map (·.1)) = List.replicate n orbits ∧ Conserved parts r.2 r.1.flatten := by
  fun_induction instancesT orbits n parts with
  | case1 parts => rintro _ ⟨⟩; exact ⟨rfl, .refl _⟩
  | case2 | case3 => rintro _ ⟨⟩
  | case4 n parts tcs parts' hp rest parts'' hr ih =>
    rintro _ ⟨⟩
    exact ⟨by rw [List.map_cons, (popOrbitsT_spec hp).1, (ih hr).1, List.replicate_succ],
      (popOrbitsT_spec hp).2.trans (ih hr).2⟩

/-- number of instances of the motif type with orbit list `orbits` -/
def numMotifs (sizes : List Nat) (σ : List (List Nat)) (orbits : List Nat) : Nat :=
  (σ.getD (orbits.headD 0) []).length / sizes.getD (orbits.headD 0) 0

theorem numMotifs_cons {sizes : List Nat} {σ : List (List Nat)} {kk sz : Nat} {l : List Nat} (os : List Nat)
    (hl : σ[kk]? = some l) (hs : sizes[kk]? = some sz) : numMotifs sizes σ (kk :: os) = l.length / sz := by
  simp [numMotifs, List.getD_eq_getElem?_getD, hl, hs]

/-- the motif type and the popped columns of every instance of a run, in order -/
def shape (gs : List (Nat × Tagged)) : List (Nat × List Nat) := gs.map fun g => (g.1, g.2.map (·.1))

theorem drawAllT_spec {sizes : List Nat} {σ : List (List Nat)} {rest : List (List Nat)} {j : Nat}
    {parts : List (List (List Nat))} :
    ∀ {r}, drawAllT sizes σ rest j parts = some r →
      Conserved parts r.2 (allTagged r.1) ∧
      shape r.1 = indexed j (rest.map fun o => List.replicate (numMotifs sizes σ o) o) := by
  fun_induction drawAllT sizes σ rest j parts with
  | case1 => rintro _ ⟨⟩; exact ⟨.refl _, rfl⟩
  | case6 rest j parts kk os l sz hs hl hsz tcss parts' more parts'' hr hi ih =>
    intro r h
    simp only [hi, hr, Option.some.injEq] at h
    subst h
    refine ⟨?_, ?_⟩
    · have : allTagged (tcss.map (fun tcs => (j, tcs)) ++ more) = tcss.flatten ++ allTagged more := by
        simp [allTagged, List.flatMap_def, Function.comp_def]
      exact this ▸ (instancesT_spec hi).2.trans (ih hr).1
    · rw [List.map_cons, indexed_cons, ← (ih hr).2, numMotifs_cons os hl hs, ← (instancesT_spec hi).1]
      simp [shape, Function.comp_def]
  | _ => intro r h; simp [*] at h

/-- total number of pops from column `i` requested by the motif types in `rest` -/
def demand (sizes : List Nat) (σ : List (List Nat)) (rest : List (List Nat)) (i : Nat) : Nat :=
  (rest.map fun orbits => numMotifs sizes σ orbits * orbits.count i).sum

theorem demand_cons (sizes : List Nat) (σ : List (List Nat)) (o : List Nat) (rest : List (List Nat)) (i : Nat) :
    demand sizes σ (o :: rest) i = numMotifs sizes σ o * o.count i + demand sizes σ rest i := by
  simp [demand]

theorem count_flatten_replicate (k : Nat) (o : List Nat) (i : Nat) :
    (List.replicate k o).flatten.count i = k * o.count i := by
  rw [List.count_flatten, List.map_replicate, List.sum_replicate_nat]

theorem count_blocks (n : List Nat → Nat) (os : List (List Nat)) (i : Nat) :
    (os.map fun o => List.replicate (n o) o).flatten.flatten.count i = (os.map fun o => n o * o.count i).sum := by
  induction os with
  | nil => rfl
  | cons o os ih =>
    simp [count_flatten_replicate, ih]

/-! ### success (no IndexError / ZeroDivisionError) when enough chunks are available

The three proofs follow the branches of the function, in its order.  A branch in which the model raises contradicts
the supply hypothesis `hlen` (or `hrest`); where the recursive call is said to fail, the induction hypothesis,
fed with what the `_spec` lemma says about the supply left over, says it does not. -/

theorem popOrbitsT_ok (parts : List (List (List Nat))) (is : List Nat)
    (hlen : ∀ i, is.count i ≤ (parts.getD i []).length) : ∃ r, popOrbitsT parts is = some r := by
  fun_induction popOrbitsT parts is with
  | case1 => exact ⟨_, rfl⟩
  | case2 parts i is hp =>          -- no column `i`
    have := hlen i; simp [List.getD_eq_getElem?_getD, hp] at this
  | case3 parts i is p hp hc =>     -- column `i` is empty
    have := hlen i; simp [List.getD_eq_getElem?_getD, hp, List.getLast?_eq_none_iff.1 hc] at this
  | case4 parts i is p hp c hc hr ih =>   -- the remaining pops fail
    obtain ⟨r, hr'⟩ := ih fun k => (Conserved.pop hp hc).le_of_add rfl
      (List.count_append (l₁ := [i]) (l₂ := is) ▸ hlen k)
    rw [hr] at hr'; cases hr'
  | case5 => exact ⟨_, rfl⟩

theorem instancesT_ok (orbits : List Nat) (n : Nat) (parts : List (List (List Nat)))
    (hlen : ∀ i, n * orbits.count i ≤ (parts.getD i []).length) : ∃ r, instancesT orbits n parts = some r := by
  fun_induction instancesT orbits n parts with
  | case1 => exact ⟨_, rfl⟩
  | case2 n parts hp =>                   -- the first instance fails
    obtain ⟨r, hr⟩ := popOrbitsT_ok parts orbits fun i =>
      Nat.le_trans (Nat.le_mul_of_pos_left _ n.succ_pos) (hlen i)
    rw [hp] at hr; cases hr
  | case3 n parts tcs parts' hp hr ih =>  -- the remaining instances fail
    obtain ⟨r, hr'⟩ := ih fun i => (popOrbitsT_spec hp).2.le_of_add (congrArg (List.count i) (popOrbitsT_spec hp).1)
      (by have := hlen i; rwa [Nat.succ_mul, Nat.add_comm] at this)
    rw [hr] at hr'; cases hr'
  | case4 => exact ⟨_, rfl⟩

theorem drawAllT_ok (sizes : List Nat) (σ : List (List Nat)) (rest : List (List Nat)) (j : Nat)
    (parts : List (List (List Nat)))
    (hrest : ∀ orbits ∈ rest, orbits ≠ [] ∧ orbits.headD 0 < σ.length ∧ 0 < sizes.getD (orbits.headD 0) 0)
    (hlen : ∀ i, demand sizes σ rest i ≤ (parts.getD i []).length) :
    ∃ r, drawAllT sizes σ rest j parts = some r := by
  fun_induction drawAllT sizes σ rest j parts with
  | case1 => exact ⟨_, rfl⟩
  | case2 =>                                -- an empty orbit list
    exact absurd rfl (hrest _ List.mem_cons_self).1
  | case3 rest j parts kk os l hl hs =>     -- orbit size 0
    have := (hrest _ List.mem_cons_self).2.2
    simp [List.getD_eq_getElem?_getD, hs] at this
  | case4 rest j parts kk os l sz hs hl hsz hi =>   -- the instances of this type fail
    obtain ⟨r, hr⟩ := instancesT_ok (kk :: os) (l.length / sz) parts fun i =>
      Nat.le_trans (by rw [demand_cons, numMotifs_cons os hl hs]; exact Nat.le_add_right _ _) (hlen i)
    rw [hi] at hr; cases hr
  | case5 rest j parts kk os l sz hs hl hsz tcss parts' hr hi ih =>   -- the remaining types fail
    obtain ⟨r, hr'⟩ := ih (fun o ho => hrest o (List.mem_cons_of_mem _ ho)) fun i =>
      (instancesT_spec hi).2.le_of_add
        (by rw [List.map_flatten, (instancesT_spec hi).1, count_flatten_replicate])
        (by have := hlen i; rwa [demand_cons, numMotifs_cons os hl hs] at this)
    rw [hr] at hr'; cases hr'
  | case6 rest j parts kk os l sz hs hl hsz tcss parts' more parts'' hr hi =>
    simp only [hi, hr]; exact ⟨_, rfl⟩
  | case7 rest j parts kk os hno =>         -- the first orbit is not a column with a size
    obtain ⟨_, h1, h2⟩ := hrest _ List.mem_cons_self
    have h3 : kk < sizes.length := by
      rcases Nat.lt_or_ge kk sizes.length with h | h
      · exact h
      · simp [List.getD_eq_getElem?_getD, List.getElem?_eq_none h] at h2
    exact (hno _ _ (List.getElem?_eq_getElem h1) (List.getElem?_eq_getElem h3)).elim

section run
variable {sizes : List Nat} {orbitLists σ : List (List Nat)} {gs : List (Nat × Tagged)} {fin : List (List (List Nat))}
  (h : runCustomT sizes orbitLists σ = some (gs, fin))
include h

theorem run_conserved : Conserved (partitions sizes σ) fin (allTagged gs) := (drawAllT_spec h).1

theorem run_shape :
    shape gs = indexed 0 (orbitLists.map fun o => List.replicate (numMotifs sizes σ o) o) := (drawAllT_spec h).2

theorem run_tags {g : Nat × Tagged} (hg : g ∈ gs) :
    g.1 < orbitLists.length ∧ g.2.map (·.1) = orbitLists.getD g.1 [] := by
  have hs : (g.1, g.2.map fun t => t.1) ∈ shape gs := List.mem_map.2 ⟨g, hg, rfl⟩
  have := (mem_indexed (run_shape h ▸ hs)).2
  rw [List.getD_eq_getElem?_getD, List.getElem?_map] at this
  rcases Nat.lt_or_ge g.1 orbitLists.length with hj | hj
  · rw [List.getD_eq_getElem?_getD, List.getElem?_eq_getElem hj]
    rw [Nat.sub_zero, List.getElem?_eq_getElem hj] at this
    exact ⟨hj, List.eq_of_mem_replicate this⟩
  · rw [Nat.sub_zero, List.getElem?_eq_none hj] at this; cases this

theorem run_count {j : Nat} (hj : j < orbitLists.length) :
    (gs.filter (·.1 = j)).length = numMotifs sizes σ (orbitLists.getD j []) := by
  have := congrArg List.length (indexed_filter 0 (orbitLists.map fun o => List.replicate (numMotifs sizes σ o) o) j)
  rw [← run_shape h, shape, List.filter_map, List.length_map, List.length_map] at this
  simpa [List.getD_eq_getElem?_getD, hj, Function.comp_def] using this

theorem run_popped_length (i : Nat) : (popped i (allTagged gs)).length = demand sizes σ orbitLists i := by
  have : (allTagged gs).map (·.1) = ((shape gs).map (·.2)).flatten := by
    simp [allTagged, shape, List.flatMap_def, List.map_flatten, Function.comp_def]
  rw [length_popped, this, run_shape h, indexed_map_snd, count_blocks, demand]

end run

end Gcmpy.Generate
