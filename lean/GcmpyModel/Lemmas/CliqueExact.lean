import Mathlib.Algebra.BigOperators.Ring.Finset
import Mathlib.Algebra.BigOperators.Group.Finset.Powerset
import Mathlib.Tactic.Ring
import GcmpyModel.Lemmas.HararyPalmer
/-
The automated equation on the clique `K_τ` in closed form (property C16, clique part).

`percAutoE_eq_automatedEquation` turns `automatedEquation (completeGraph τ) φ u 0` into the finset-level sum over the
vertex sets `S ∋ 0` of `(1-φ)^|∂S| · ∏_{v ∈ S, v ≠ 0} u v · Σ_{F ⊆ E(S), comp_F(0) = S} wt F`.  The
edges of `K_τ` are `HP.pairs (range τ)`, so
* `|∂S| = |S| (τ - |S|)` (`HP.card_bdry_pairs`);
* the connected spanning edge sets of the induced graph with `j` edges number `ccN |S| j` (`HP.fiber_conn`,
  `HP.cc_eq_ccN`);
* `Σ_{|S| = κ+1} ∏_{v ∈ S, v ≠ 0} u v` is the elementary symmetric sum of `u 1, …, u (τ-1)`
  (`HP.sum_powerset_mem`, `sum_combinations_eq`).
-/
namespace Gcmpy.ClosedForms
open Gcmpy Gcmpy.Graph Gcmpy.Automated

theorem completeGraph_simple (n : Nat) : Simple (completeGraph n).edges :=
  simple_of_lt (completeGraph_edges_nodup n) fun e he => (completeGraph_lt e he).1

open Gcmpy.HP

theorem sum_wt_by_card {R ι : Type} [CommRing R] [DecidableEq ι] (p : R) (I : Finset ι) (q : Finset ι → Prop)
    [DecidablePred q] :
    ∑ F ∈ I.powerset.filter q, Perc.wt p I F
      = ∑ j ∈ Finset.range (I.card + 1),
          (((I.powersetCard j).filter q).card : R) * (p ^ j * (1 - p) ^ (I.card - j)) := by
  rw [Finset.sum_filter, Finset.sum_powerset]
  refine Finset.sum_congr rfl fun j _ => ?_
  rw [← Finset.sum_filter, ← nsmul_eq_mul, ← Finset.sum_const]
  refine Finset.sum_congr rfl fun F hF => ?_
  obtain ⟨hFI, hj⟩ := Finset.mem_powersetCard.1 (Finset.mem_filter.1 hF).1
  rw [Perc.wt_eq_pow p hFI, hj]

/-- elementary symmetric sums: the list form (`itertools.combinations`) is the finset form -/
theorem sum_combinations_eq {R : Type} [CommRing R] (f : Nat → R) (l : List Nat) (hl : l.Nodup) (k : Nat) :
    ((combinations k (l.map f)).map List.prod).sum
      = ∑ T ∈ Finset.powersetCard k l.toFinset, ∏ v ∈ T, f v := by
  rw [combinations_map, List.map_map, ((combinations_perm_filter l k).map _).sum_eq, Finset.powersetCard_eq_filter]
  exact sum_filter_sublists_eq l hl _ (fun T => T.card = k) _ (fun T => ∏ v ∈ T, f v)
    (fun A hA => by rw [decide_eq_true_iff, List.toFinset_card_of_nodup (hA.nodup hl)])
    fun A hA => (List.prod_toFinset f (hA.nodup hl)).symm

theorem sum_combinations_range {R : Type} [CommRing R] (tau κ : Nat) (h : 1 ≤ tau) (u : Nat → R) :
    ((combinations κ ((List.range (tau - 1)).map fun i => u (i + 1))).map List.prod).sum
      = ∑ T ∈ Finset.powersetCard κ ((Finset.range tau).erase 0), ∏ v ∈ T, u v := by
  have hl : ((List.range (tau - 1)).map (· + 1)).Nodup :=
    List.Nodup.map (fun a b hab => Nat.add_right_cancel hab) List.nodup_range
  have ht : ((List.range (tau - 1)).map (· + 1)).toFinset = (Finset.range tau).erase 0 := by
    ext v
    simp only [List.mem_toFinset, List.mem_map, List.mem_range, Finset.mem_erase, Finset.mem_range]
    constructor
    · rintro ⟨i, hi, rfl⟩; omega
    · intro hv; exact ⟨v - 1, by omega, by omega⟩
  rw [← ht, ← sum_combinations_eq u _ hl κ, List.map_map]
  rfl

/-- the total weight of the connected spanning edge sets of the subgraph of `K_Vs` induced on `S ∋ r`, by number `j`
of open edges: there are `ccN |S| j` of them (`fiber_conn`, `cc_eq_ccN`) -/
theorem sum_wt_fiber_pairs {R V : Type} [CommRing R] [LinearOrder V] {Vs S : Finset V} (hS : S ⊆ Vs) {r : V}
    (hr : r ∈ S) (p : R) :
    ∑ F ∈ (Perc.inner (pairs Vs) S).powerset.filter (fun F => Perc.comp Vs F r = S),
        Perc.wt p (Perc.inner (pairs Vs) S) F
      = ∑ j ∈ Finset.range (S.card.choose 2 + 1),
          (ccN S.card j : R) * (p ^ j * (1 - p) ^ (S.card.choose 2 - j)) := by
  rw [sum_wt_by_card]
  simp only [fiber_conn hS hr, cc_eq_ccN]
  rw [inner_pairs hS, card_pairs]

/-- **the automated equation on the clique `K_τ` rooted at `0`**: the root component is any vertex set `S ∋ 0`; for
`|S| = κ+1` its `(κ+1)(τ-κ-1)` boundary edges are closed and the open inner edges form one of the `ccN (κ+1) j`
connected graphs with `j` edges on `S`; summing `∏_{v ∈ S, v ≠ 0} u v` over the `S` of a given size gives the
elementary symmetric sum of `u 1, …, u (τ-1)` -/
theorem automated_clique_ccN {R : Type} [CommRing R] {tau : Nat} (h : 1 ≤ tau) (p : R) (u : Nat → R) :
    automatedEquation (completeGraph tau) p u 0
      = ∑ κ ∈ Finset.range tau,
          ((combinations κ ((List.range (tau - 1)).map fun i => u (i + 1))).map List.prod).sum *
            ∑ j ∈ Finset.range (κ * (κ + 1) / 2 + 1),
              (ccN (κ + 1) j : R) * p ^ j * (1 - p) ^ (κ * (κ + 1) / 2 - j + (κ + 1) * (tau - κ - 1)) := by
  have h0 : 0 ∈ (completeGraph tau).nodes := List.mem_range.2 h
  rw [← percAutoE_eq_automatedEquation (completeGraph tau) (completeGraph_wf tau)
    (completeGraph_simple tau) h0, show (completeGraph tau).nodes.toFinset = _ from List.toFinset_range tau,
    completeGraph_edges_toFinset]
  unfold Perc.autoE
  have hcard : ((Finset.range tau).erase 0).card + 1 = tau := by
    rw [Finset.card_erase_of_mem (Finset.mem_range.2 h), Finset.card_range]; omega
  rw [sum_powerset_mem (Finset.mem_range.2 h), Finset.sum_powerset, hcard]
  refine Finset.sum_congr rfl fun κ _ => ?_
  rw [sum_combinations_range tau κ h u, Finset.sum_mul]
  refine Finset.sum_congr rfl fun T hT => ?_
  obtain ⟨hT, hc⟩ := Finset.mem_powersetCard.1 hT
  have h0T : 0 ∉ T := fun h0 => (Finset.mem_erase.1 (hT h0)).1 rfl
  have hS : insert 0 T ⊆ Finset.range tau :=
    Finset.insert_subset (Finset.mem_range.2 h) (hT.trans (Finset.erase_subset _ _))
  rw [sum_wt_fiber_pairs hS (Finset.mem_insert_self 0 T), Finset.prod_const, card_bdry_pairs hS, Finset.card_range,
    Finset.erase_insert h0T, Finset.card_insert_of_notMem h0T, hc,
    Nat.choose_two_right, Nat.add_sub_cancel, Nat.mul_comm (κ + 1) κ, Finset.mul_sum, Finset.mul_sum]
  refine Finset.sum_congr rfl fun j _ => ?_
  rw [pow_add, Nat.sub_sub]
  ring

end Gcmpy.ClosedForms
