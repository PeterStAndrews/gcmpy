import GcmpyModel.Lemmas.Generate
/-!
# C01 — generated graphs realise exactly the requested joint degree sequence

All statements hold for **every** list of `randbelow` draws (valid or not): `draws` is universally
quantified, which is "for every outcome of the random shuffles".  `build` is an arbitrary callback.
-/
namespace Gcmpy.Generate

def Handshake (sizes : List Nat) (jds : List (List Nat)) (k : Nat) : Prop :=
  0 < sizes.getD k 0 ∧ sizes.getD k 0 ∣ colSum jds k

/-- `jds[v][k]` (0 outside the sequence) -/
def deg (jds : List (List Nat)) (v k : Nat) : Nat := (jds.getD v []).getD k 0

theorem deg_eq_ite (jds : List (List Nat)) (v k : Nat) :
    (jds.getD v []).getD k 0 = if v < jds.length then deg jds v k else 0 := by
  split
  · rfl
  · simp [List.getD_eq_getElem?_getD, List.getElem?_eq_none (Nat.le_of_not_lt ‹_›)]

variable {β : Type} (sizes : List Nat) (build : Nat → List Nat → β) (jds : List (List Nat))
  (draws : List (List Nat))

/-- exactly `sum_v jds[v][k] / size_k` motif instances of topology `k` … -/
theorem fast_motif_count (k : Nat) (hk : k < ncols jds) (H : Handshake sizes jds k) :
    ((motifsFast sizes build (shuffled jds draws)).filter (fun m => m.top = k)).length
      = colSum jds k / sizes.getD k 0 := by
  rw [← List.length_map (f := (·.verts)), motifsFast_top, (pool_sizes sizes jds draws hk H.2).1]

/-- … each built from exactly `size_k` drawn stubs … -/
theorem fast_group_size (m : Motif β) (hm : m ∈ motifsFast sizes build (shuffled jds draws))
    (H : Handshake sizes jds m.top) : m.verts.length = sizes.getD m.top 0 :=
  have hc := motifsFast_mem sizes build _ m hm
  (pool_sizes sizes jds draws (col_lt_of_mem_pool hc) H.2).2 _ hc

/-- … by applying that topology's build callback to them. -/
theorem fast_build_applied (m : Motif β) (hm : m ∈ motifsFast sizes build (shuffled jds draws)) :
    m.built = build m.top m.verts := records_built build _ hm

/-- every vertex `v` occupies exactly `jds[v][k]` stub slots among the topology-`k` motifs -/
theorem fast_slots (k : Nat) (hk : k < ncols jds) (hs : 0 < sizes.getD k 0) (v : Nat) :
    (((motifsFast sizes build (shuffled jds draws)).filter (fun m => m.top = k)).flatMap (·.verts)).count v
      = if v < jds.length then deg jds v k else 0 := by
  rw [List.flatMap_def, motifsFast_top, (pool_flatten sizes jds draws hk hs).count_eq, count_stubs, deg_eq_ite]

/-- no vertex outside `0..N-1` ever appears -/
theorem fast_vertices_in_range (m : Motif β) (hm : m ∈ motifsFast sizes build (shuffled jds draws))
    (v : Nat) (hv : v ∈ m.verts) : v < jds.length :=
  vertex_lt_of_mem_pool (motifsFast_mem sizes build _ m hm) hv

/-- the joint degree sequence is carried through unchanged -/
theorem fast_jds_carried {ν : Type} (b : Nat → List Nat → List (Nat × Nat)) (names : Nat → ν) :
    (genFast sizes b names jds draws).jointDegrees = jds := rfl

theorem custom_jds_carried (orbits : List (List Nat)) (b : Nat → List Nat → Built) (names : Nat → Named)
    (el : EdgeList Cell) (h : genCustom sizes orbits b names jds draws = some el) : el.jointDegrees = jds := by
  obtain ⟨ms, _, rfl⟩ := Option.map_eq_some_iff.1 h
  rfl

/-- the edges emitted are exactly the callback results, motif after motif (nothing dropped or duplicated) -/
theorem fast_edges_are_callback_results {ν : Type} (b : Nat → List Nat → List (Nat × Nat)) (names : Nat → ν) :
    (genFast sizes b names jds draws).edges
      = (motifsFast sizes b (shuffled jds draws)).flatMap (fun m => b m.top m.verts) := by
  simp only [genFast, edgeListFast, List.flatMap_def]
  rw [List.map_congr_left (fast_build_applied sizes b jds draws)]

/-! Non-vacuity: a concrete sequence with zero-degree vertices meets the hypotheses. -/
example : Handshake [2, 3] [[1, 0], [1, 3], [2, 0], [0, 0]] 0 ∧ Handshake [2, 3] [[1, 0], [1, 3], [2, 0], [0, 0]] 1
    ∧ (1 : Nat) < ncols [[1, 0], [1, 3], [2, 0], [0, 0]] := by
  refine ⟨⟨by decide, ⟨2, by decide⟩⟩, ⟨by decide, ⟨1, by decide⟩⟩, by decide⟩
example : (motifsFast [2, 3] (fun _ vs => vs.length) (shuffled [[1, 0], [1, 3], [2, 0], [0, 0]] [[3, 0, 1], [1, 0]])).map
    (fun m => (m.top, m.id, m.verts)) = [(0, 0, [2, 1]), (0, 1, [0, 2]), (1, 2, [1, 1, 1])] := by decide +kernel

end Gcmpy.Generate
