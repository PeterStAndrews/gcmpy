import GcmpyModel.Lemmas.DrawSet
/-!
# C20 — the drawable edge set behaves as a set under any add/remove history

Specification: a plain set, as a membership predicate `α → Prop`, driven by the same operations.
`spec ops y` says "y is a member after the history `ops`" for a Python `set` run alongside
(`add` = insert, `remove` of a present element = erase, `remove` of an absent element raises and
changes nothing, the other operations are observers).
-/
namespace Gcmpy.DrawSet
variable {α : Type} [DecidableEq α]

def specStep (S : α → Prop) : Op α → (α → Prop)
  | .add x => fun y => y = x ∨ S y
  | .remove x => fun y => S y ∧ y ≠ x          -- for absent x this is S itself
  | _ => S

def spec (ops : List (Op α)) : α → Prop := ops.foldl specStep (fun _ => False)

theorem step_refines {s : St α} {S : α → Prop} (h : Inv s) (hS : ∀ y, y ∈ s.edges ↔ S y) (op : Op α) :
    Inv (step s op) ∧ ∀ y, y ∈ (step s op).edges ↔ specStep S op y := by
  cases op with
  | add x =>
    refine ⟨inv_add h x, fun y => ?_⟩
    simp only [step, specStep, mem_add h, hS]
  | remove x =>
    simp only [step, specStep]
    by_cases hx : x ∈ s.edges
    · obtain ⟨s', hr⟩ := remove_present h x hx
      rw [hr]
      exact ⟨inv_remove h x hr, fun y => by simp only [Option.getD_some, mem_remove h x hr, hS]⟩
    · rw [remove_absent h x hx]
      exact ⟨h, fun y => ⟨fun hy => ⟨(hS y).1 hy, fun e => hx (e ▸ hy)⟩, fun hy => (hS y).2 hy.1⟩⟩
  | draw i => exact ⟨h, hS⟩
  | contains x => exact ⟨h, hS⟩
  | len => exact ⟨h, hS⟩
  | iter => exact ⟨h, hS⟩

/-- After any operation sequence the structure's invariant holds
and its members are exactly the reference set's members. -/
theorem run_refines (ops : List (Op α)) :
    Inv (run (empty : St α) ops) ∧ ∀ y, y ∈ (run (empty : St α) ops).edges ↔ spec ops y :=
  List.foldl_rel (r := fun (s : St α) (S : α → Prop) => Inv s ∧ ∀ y, y ∈ s.edges ↔ S y)
    ⟨inv_empty, by simp [empty]⟩ fun op _ _ _ h => step_refines h.1 h.2 op

/-- iteration yields each member exactly once -/
theorem iter_each_once (ops : List (Op α)) :
    (iter (run (empty : St α) ops)).Nodup ∧ ∀ y, y ∈ iter (run (empty : St α) ops) ↔ spec ops y :=
  ⟨(run_refines ops).1.nodup, (run_refines ops).2⟩

theorem contains_iff_spec (ops : List (Op α)) (y : α) :
    contains (run (empty : St α) ops) y = true ↔ spec ops y := by
  rw [← (run_refines ops).1.mem_iff, (run_refines ops).2]

/-- `len` counts the members: the member list is duplicate free and lists exactly the reference set,
so its length is the set's cardinality. Stated for any duplicate-free enumeration of the reference set. -/
theorem len_eq_card (ops : List (Op α)) (enum : List α) (hn : enum.Nodup) (he : ∀ y, y ∈ enum ↔ spec ops y) :
    len (run (empty : St α) ops) = enum.length := by
  have h := run_refines ops
  have hp : (run (empty : St α) ops).edges.Perm enum :=
    (List.perm_ext_iff_of_nodup h.1.nodup hn).2 (fun y => by rw [h.2, he])
  exact hp.length_eq

/-- inserting a present element changes nothing (the whole state, not just the set) -/
theorem add_present_changes_nothing (ops : List (Op α)) (x : α) (hx : spec ops x) :
    run (empty : St α) (ops ++ [.add x]) = run (empty : St α) ops := by
  have h := run_refines ops
  simp only [run, List.foldl_append, List.foldl_cons, List.foldl_nil, step]
  exact add_present_noop h.1 x ((h.2 x).2 hx)

theorem draw_is_member (ops : List (Op α)) (i : Nat) (x : α)
    (hd : draw (run (empty : St α) ops) i = some x) : spec ops x :=
  ((run_refines ops).2 x).1 (draw_mem _ i x hd)

theorem draw_total (ops : List (Op α)) (i : Nat) (hi : i < len (run (empty : St α) ops)) :
    ∃ x, draw (run (empty : St α) ops) i = some x := draw_lt _ i hi

theorem every_member_drawable (ops : List (Op α)) (x : α) (hx : spec ops x) :
    ∃ i, i < len (run (empty : St α) ops) ∧ draw (run (empty : St α) ops) i = some x :=
  draw_surj _ x (((run_refines ops).2 x).2 hx)

/-- removing an absent element raises (`none`) and, by definition of `step`, leaves the state intact -/
theorem remove_absent_raises (ops : List (Op α)) (x : α) (hx : ¬ spec ops x) :
    remove (run (empty : St α) ops) x = none :=
  remove_absent (run_refines ops).1 x (fun h => hx (((run_refines ops).2 x).1 h))

theorem remove_present_succeeds (ops : List (Op α)) (x : α) (hx : spec ops x) :
    ∃ s', remove (run (empty : St α) ops) x = some s' ∧ len s' + 1 = len (run (empty : St α) ops) := by
  rcases remove_present (run_refines ops).1 x (((run_refines ops).2 x).2 hx) with ⟨s', hs'⟩
  exact ⟨s', hs', len_remove hs'⟩

/-! Non-vacuity and the corner cases named in the property, on concrete histories. -/
section examples
-- removal of the last-inserted element, removal down to empty, re-insertion
example : (run (empty : St Nat) [.add 1, .add 2, .add 3, .remove 3]).edges = [1, 2] := by decide
example : (run (empty : St Nat) [.add 1, .add 2, .remove 1, .remove 2]).edges = [] := by decide
example : (run (empty : St Nat) [.add 1, .remove 1, .add 1, .add 1]).edges = [1] := by decide
-- swap-with-last really happens
example : (run (empty : St Nat) [.add 1, .add 2, .add 3, .remove 1]).edges = [3, 2] := by decide
example : remove (run (empty : St Nat) [.add 1, .add 2]) 7 = none := by decide
example : spec [Op.add 1, .add 2, .remove 1] (2 : Nat) := by simp [spec, specStep]
end examples

end Gcmpy.DrawSet
