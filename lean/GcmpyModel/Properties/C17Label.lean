import GcmpyModel.Lemmas.LabelParse
/-!
# C17 (continued) — the cover-label parser reads back what the label format writes

Model: `Model/LabelParse.lean` (the four accessors of `message_passing_mixin.py`: `split('-')`, `int`, `literal_eval`
on the grammar of the documented labels).  For EVERY key, member list, edge list and motif id — numbers of any size,
lists of any length, the empty lists included — the label `f"{key}-{verts}-{edges}-{id}"` is read back exactly, so
two motifs with different (key, members, edges, id) never share a label.  The correspondence check runs the real
accessors and these on the same label strings (Python `str` spelling, compact spelling, tuples, trailing commas,
blanks; malformed labels).
-/
namespace Gcmpy.LabelParse

variable (key : Nat) (verts : List Nat) (edges : List Edge) (id : Nat)

-- the next four: `Lemmas.*_of_format`, restated
theorem topology_of_format : motifTopology (fmtLabel key verts edges id) = some key :=
  Lemmas.topology_of_format key verts edges id

theorem id_of_format : motifID (fmtLabel key verts edges id) = some id :=
  Lemmas.id_of_format key verts edges id

theorem vertices_of_format : verticesInMotif (fmtLabel key verts edges id) = some verts :=
  Lemmas.vertices_of_format key verts edges id

theorem edges_of_format : edgesInMotif (fmtLabel key verts edges id) = some edges :=
  Lemmas.edges_of_format key verts edges id

theorem fmtLabel_injective {key' : Nat} {verts' : List Nat} {edges' : List Edge} {id' : Nat}
    (h : fmtLabel key verts edges id = fmtLabel key' verts' edges' id') :
    key = key' ∧ verts = verts' ∧ edges = edges' ∧ id = id' := by
  refine ⟨?_, ?_, ?_, ?_⟩
  · have := topology_of_format key verts edges id; rw [h, topology_of_format] at this;
    exact (Option.some.inj this).symm
  · have := vertices_of_format key verts edges id; rw [h, vertices_of_format] at this;
    exact (Option.some.inj this).symm
  · have := edges_of_format key verts edges id; rw [h, edges_of_format] at this; exact (Option.some.inj this).symm
  · have := id_of_format key verts edges id; rw [h, id_of_format] at this; exact (Option.some.inj this).symm

/-! ## non-vacuity and the spellings Python accepts besides its own -/

example : String.ofList (fmtLabel 3 [10, 2, 33] [(10, 2), (10, 33), (2, 33)] 1007)
    = "3-[10, 2, 33]-[(10, 2), (10, 33), (2, 33)]-1007" := by decide +kernel
example : verticesInMotif "4-(1,2,3 , 4 ,)-( [1,2],(2,3,), )-7".toList = some [1, 2, 3, 4] := by decide +kernel
example : edgesInMotif "4-(1,2,3 , 4 ,)-( [1,2],(2,3,), )-7".toList = some [(1, 2), (2, 3)] := by decide +kernel
example : verticesInMotif "4-[1,,2]-[]-7".toList = none := by decide +kernel
example : verticesInMotif "4".toList = none ∧ motifID "4".toList = some 4 := by decide +kernel

end Gcmpy.LabelParse
