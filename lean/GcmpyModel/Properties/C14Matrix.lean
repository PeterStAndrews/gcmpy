import GcmpyModel.Properties.C14
import GcmpyModel.Properties.C13
/-!
# C14 (continuation) — "summing a mixing matrix over its second index", for ALL mixing matrices

`row_sums_over_matrix` (C14) needs the key list `ks` handed to the row-sum routine to contain both halves of every
matrix key; `split_keys_spec` (C13) says that the key list the code computes for itself
(`JointExcessJointDegreeMatrices.get_excess_degree_keys`, modelled by `Mixing.splitKeys`) is exactly the set of those
halves.
Together: for an arbitrary hand-made matrix — not symmetric, any subset of the ordered pairs stored — whose keys are
`2T`-tuples, the code's row sums are the matrix summed over its second index.  (This is the statement the harness
checks on its hand-made matrices, C14 kind "matrix".)
-/
namespace Gcmpy.Algebra
open Gcmpy Gcmpy.Loaders

theorem split_keys_length (ejk : Table) (T : Nat) (hT : ∀ k ∈ Dict.keys ejk, k.length = 2 * T)
    (h : JD) (hh : h ∈ Mixing.splitKeys ejk) : h.length = T := by
  obtain ⟨p, hp, hcase⟩ := (Mixing.split_keys_spec ejk h).1 hh
  have hk : p.1.length = 2 * T := hT p.1 (Dict.mem_keys_of_mem hp)
  have h2 : 2 * T / 2 = T := Nat.mul_div_cancel_left T (Nat.succ_pos 1)
  rcases hcase with rfl | rfl
  · rw [List.length_take, hk, h2, Nat.min_eq_left (Nat.le_mul_of_pos_left T (Nat.succ_pos 1))]
  · rw [List.length_drop, hk, h2, Nat.two_mul, Nat.add_sub_cancel]

/-- for ANY matrix with distinct `2T`-tuple keys, the row sum the code forms over its own key list is the sum of the
    matrix entries whose first half is `a` -/
theorem row_sums_any_matrix (ejk : Table) (T : Nat) (a : JD) (hne : (Dict.keys ejk).Nodup)
    (hT : ∀ k ∈ Dict.keys ejk, k.length = 2 * T) (ha : a ∈ Mixing.splitKeys ejk) :
    ((Mixing.splitKeys ejk).map fun b => (Dict.get ejk (a ++ b)).getD 0).sum =
      ((ejk.filter fun kv => decide (kv.1.take T = a)).map (·.2)).sum := by
  refine row_sums_over_matrix ejk (Mixing.splitKeys ejk) T a (List.nodup_eraseDups _) hne
    (split_keys_length ejk T hT) (fun k hk => ?_) ha
  obtain ⟨p, hp, rfl⟩ := List.mem_map.1 hk
  exact ⟨_, (Mixing.split_keys_spec ejk _).2 ⟨p, hp, Or.inl rfl⟩, _,
    (Mixing.split_keys_spec ejk _).2 ⟨p, hp, Or.inr rfl⟩, (List.take_append_drop _ _).symm⟩

/-- non-vacuity: an asymmetric matrix storing one entry per unordered pair; the tuple `[2, 2]` occurs only as a second
    half -/
def upper : Table := [([0, 3, 0, 3], 1 / 4), ([0, 3, 2, 2], 1 / 2), ([1, 1, 0, 3], 1 / 4)]

example : Mixing.splitKeys upper = [[0, 3], [2, 2], [1, 1]] := by decide +kernel
example : ((Mixing.splitKeys upper).map fun b => (Dict.get upper ([0, 3] ++ b)).getD 0).sum = 3 / 4 := by decide +kernel
example : (Dict.keys upper).Nodup ∧ ∀ k ∈ Dict.keys upper, k.length = 2 * 2 := by decide +kernel

/-! ## the setting of the network identity

The identity itself is in `Properties/C14Network.lean`; its setting stands here because the counting under it
(`Lemmas/NetworkIdentity.lean`) comes between the two files. -/

open Gcmpy.Mixing

/-- number of edges of topology `name` incident to `v` (entries of the edge list) -/
def incident (net : ANet) (name : String) (v : Nat) : Nat :=
  (net.edges.filter fun e => decide (e.2.2 = name ∧ (e.1 = v ∨ e.2.1 = v))).length

/-- The setting: an annotated network over the `T` topologies `names`, looked at through topology number `i`
    (named `name`), which is CLEAN with constant `c`: every vertex `v` has exactly `c · jd(v)[i]` incident
    edges of that topology (`c = s - 1` for cliques of size `s`, `c = 2` for cycles, `c = 1` for 2-cliques).
    `edges_once` is part of the setting but is not used by the proofs (`incident` counts entries of the edge
    list, which is the number of incident edges when every edge is listed once). -/
structure CleanNetwork (net : ANet) (T : Nat) (names : List String) (i : Nat) (name : String) (c : Nat) :
    Prop where
  names_length : names.length = T
  names_nodup : names.Nodup
  name_at : names[i]? = some name
  /-- every vertex is annotated exactly once -/
  vertices_once : (net.jd.map (·.1)).Nodup
  uniform : Mixing.Uniform net T
  annotated : Annotated net
  loop_free : ∀ e ∈ net.edges, e.1 ≠ e.2.1
  /-- every vertex pair is listed at most once (`G` is an `nx.Graph`) -/
  edges_once : (net.edges.map fun e => (min e.1 e.2.1, max e.1 e.2.1)).Nodup
  c_pos : 0 < c
  clean : ∀ v ∈ net.jd.map (·.1), incident net name v = c * (jdOf net v).getD i 0

end Gcmpy.Algebra
