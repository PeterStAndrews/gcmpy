import GcmpyModel.Properties.C17
import GcmpyModel.Lemmas.MessagePassingLimit
/-!
# C17 (limit) — if the message-passing iteration converges, its limit is a fixed point of the sweep

Model: `GcmpyModel/Model/MessagePassing.lean` instantiated at the real numbers.  Lemmas:
`GcmpyModel/Lemmas/MessagePassingLimit.lean`.

`Properties/C17.lean` keeps `converges_full` (the iterate after 25 sweeps is close to a fixed point) as an open
statement: no rate of convergence exists in general.  What IS a theorem is the other half of "the algorithm
returns the fixed point of the message equations": a Gauss–Seidel sweep is continuous in the table entries, so if
the iterates converge entry-wise, the table holding the limit is fixed by the sweep and the reported value converges
to the value computed from it; the convergence hypothesis is satisfiable; and the real run from rational data is
the cast of the rational run, so the statements are about the numbers the model computes.

Nothing is assumed about the network for the limit statements (no `LabelsOk`, no `Consistent`): continuity is an
instance of `Respects.sweep`, which needs no well-formedness.
-/
namespace Gcmpy.MessagePassing
open Gcmpy Gcmpy.Graph Gcmpy.Automated Filter

/-- the iterates from `H₀` converge entry-wise to `L` -/
def ConvergesTo (net : Net) (φ : ℝ) (H₀ : HMap ℝ) (L : Nat × Nat → ℝ) : Prop :=
  ∀ k, Tendsto (fun n => readH (sweeps net φ n H₀) k) atTop (nhds (L k))

/-- `theoretical` on a non-empty vertex list, over the reals -/
noncomputable def theoreticalReal (net : Net) (iterations : Nat) (φ : ℝ) : ℝ :=
  1 - outerSum net (finalH net iterations φ (1/2)) / (net.nodes.length : ℝ)

/-- **One sweep is continuous in the table entries and depends on the table only through them.**  If two tables
read the same, so do their sweeps; if the entries of a family of tables converge (along any filter) to those of `H`,
the entries of the swept tables converge to those of the swept `H`. -/
theorem sweep_continuous (net : Net) (φ : ℝ) :
    (∀ H' H : HMap ℝ, (∀ k, readH H' k = readH H k) →
      ∀ k, readH (sweep net φ H') k = readH (sweep net φ H) k) ∧
    (∀ {ι : Type} (F : Filter ι) (Hn : ι → HMap ℝ) (H : HMap ℝ),
      (∀ k, Tendsto (fun n => readH (Hn n) k) F (nhds (readH H k))) →
      ∀ k, Tendsto (fun n => readH (sweep net φ (Hn n)) k) F (nhds (readH (sweep net φ H) k))) :=
  ⟨fun H' _ h => respects_eq.sweep net (φ := fun _ => φ) rfl (Hn := fun _ => H') h,
   fun _ _ _ h => tendstoH_sweep net φ h⟩

/-- the convergence hypothesis says that the iterates converge, as tables, to any table reading `L` -/
theorem tendstoH_of_converges {net : Net} {φ : ℝ} {H₀ : HMap ℝ} {L : Nat × Nat → ℝ}
    (hconv : ConvergesTo net φ H₀ L) {Hstar : HMap ℝ} (hstar : ∀ k, readH Hstar k = L k) :
    TendstoH atTop (fun n => sweeps net φ n H₀) Hstar :=
  fun k => (hstar k).symm ▸ hconv k

/-- **The limit is a fixed point.**  If the iterates from `H₀` converge entry-wise to `L`, then any table `Hstar`
reading `L` is reproduced by one sweep: `H*[k] = (sweep H*)[k]` for every key. -/
theorem limit_is_fixed_point {net : Net} {φ : ℝ} {H₀ : HMap ℝ} {L : Nat × Nat → ℝ}
    (hconv : ConvergesTo net φ H₀ L) {Hstar : HMap ℝ} (hstar : ∀ k, readH Hstar k = L k) :
    ∀ k, readH (sweep net φ Hstar) k = readH Hstar k := by
  intro k
  -- `a (n+1) = sweep (a n)` tends to `sweep Hstar` by continuity, and to `L k`, being a tail of the sequence
  have h1 := tendstoH_sweep net φ (tendstoH_of_converges hconv hstar) k
  simp only [← sweeps_succ'] at h1
  exact hstar k ▸ tendsto_nhds_unique h1
    ((tendsto_add_atTop_iff_nat (f := fun n => readH (sweeps net φ n H₀) k) 1).2 (hconv k))

/-- the limit vanishes off the key list (a missing key reads `0` in every iterate) -/
theorem limit_zero_off_keys {net : Net} {φ : ℝ} {H₀ : HMap ℝ} {L : Nat × Nat → ℝ}
    (hkeys : EdgeKeysIn net H₀) (hconv : ConvergesTo net φ H₀ L) {k : Nat × Nat} (hk : k ∉ Dict.keys H₀) :
    L k = 0 :=
  tendsto_nhds_unique (hconv k) <| tendsto_const_nhds.congr fun n =>
    (readH_of_not_mem_keys _ (by rw [keys_sweeps net φ hkeys n]; exact hk)).symm

/-- **The limit table** (`H₀` has every edge key, as the uniform start has): the table with the key list of `H₀`
and the entries `L` reads `L` at EVERY key. -/
theorem limit_table_reads_limit_of_edgeKeys {net : Net} {φ : ℝ} {H₀ : HMap ℝ} {L : Nat × Nat → ℝ}
    (hkeys : EdgeKeysIn net H₀) (hconv : ConvergesTo net φ H₀ L) :
    ∀ k, readH (limitTable H₀ L) k = L k := by
  intro k
  by_cases hk : k ∈ Dict.keys H₀
  · exact readH_limitTable_of_mem H₀ L hk
  · rw [limit_zero_off_keys hkeys hconv hk]
    exact readH_of_not_mem_keys _ (by rw [keys_limitTable]; exact hk)

theorem converges_shift {net : Net} {φ : ℝ} {H₀ : HMap ℝ} {L : Nat × Nat → ℝ}
    (hconv : ConvergesTo net φ H₀ L) (m : Nat) : ConvergesTo net φ (sweeps net φ m H₀) L := by
  intro k
  have := (tendsto_add_atTop_iff_nat (f := fun n => readH (sweeps net φ n H₀) k) m).2 (hconv k)
  simpa only [Nat.add_comm _ m, sweeps_add] using this

/-- **The limit table**, any start: after the first sweep the key list no longer changes; the table with the key
list of `sweep net φ H₀` and the entries `L` reads `L` at every key. -/
theorem limit_table_reads_limit {net : Net} {φ : ℝ} {H₀ : HMap ℝ} {L : Nat × Nat → ℝ}
    (hconv : ConvergesTo net φ H₀ L) :
    ∀ k, readH (limitTable (sweep net φ H₀) L) k = L k :=
  limit_table_reads_limit_of_edgeKeys (edgeKeysIn_sweep net φ H₀) (converges_shift hconv 1)

/-- **The limit table is a fixed point as a table** when the start has all edge keys, once each:
`sweep net φ H* = H*`, hence `sweeps net φ m H* = H*` for every `m`. -/
theorem limit_table_fixed {net : Net} {φ : ℝ} {H₀ : HMap ℝ} {L : Nat × Nat → ℝ}
    (hkeys : EdgeKeysIn net H₀) (hnd : (Dict.keys H₀).Nodup) (hconv : ConvergesTo net φ H₀ L) :
    sweep net φ (limitTable H₀ L) = limitTable H₀ L ∧ ∀ m, sweeps net φ m (limitTable H₀ L) = limitTable H₀ L := by
  have hk : EdgeKeysIn net (limitTable H₀ L) := fun k hk => by rw [keys_limitTable]; exact hkeys k hk
  have hfix : sweep net φ (limitTable H₀ L) = limitTable H₀ L :=
    table_ext (keys_sweep_of_edgeKeys net φ hk) (by rw [keys_limitTable]; exact hnd)
      (fun k _ => limit_is_fixed_point hconv (limit_table_reads_limit_of_edgeKeys hkeys hconv) k)
  exact ⟨hfix, sweeps_of_fixed net φ hfix⟩

/-- **The reported value converges to the value of the limit table.** -/
theorem value_converges {net : Net} {φ : ℝ} {H₀ : HMap ℝ} {L : Nat × Nat → ℝ}
    (hconv : ConvergesTo net φ H₀ L) {Hstar : HMap ℝ} (hstar : ∀ k, readH Hstar k = L k) :
    Tendsto (fun n => outerSum net (sweeps net φ n H₀)) atTop (nhds (outerSum net Hstar)) ∧
    Tendsto (fun n => 1 - outerSum net (sweeps net φ n H₀) / (net.nodes.length : ℝ)) atTop
      (nhds (1 - outerSum net Hstar / (net.nodes.length : ℝ))) := by
  have h := tendsto_outerSum net (tendstoH_of_converges hconv hstar)
  exact ⟨h, (h.div_const _).const_sub 1⟩

/-- the value of the limit does not depend on the table chosen to hold it -/
theorem value_well_defined (net : Net) {H H' : HMap ℝ} (h : ∀ k, readH H k = readH H' k) :
    outerSum net H = outerSum net H' :=
  respects_eq.outerSum net (Hn := fun _ => H) h

/-- **Summary, any start `H₀`.**  If the iterates converge entry-wise to `L`, then `H* :=` (keys of
`sweep net φ H₀`, entries `L`) reads `L`, is reproduced entry-wise by one sweep and by any number of sweeps, and the
reported values converge to the value computed from `H*`. -/
theorem message_passing_limit {net : Net} {φ : ℝ} {H₀ : HMap ℝ} {L : Nat × Nat → ℝ}
    (hconv : ConvergesTo net φ H₀ L) :
    (∀ k, readH (limitTable (sweep net φ H₀) L) k = L k) ∧
    (∀ k, readH (sweep net φ (limitTable (sweep net φ H₀) L)) k = readH (limitTable (sweep net φ H₀) L) k) ∧
    (∀ m k, readH (sweeps net φ m (limitTable (sweep net φ H₀) L)) k = readH (limitTable (sweep net φ H₀) L) k) ∧
    Tendsto (fun n => 1 - outerSum net (sweeps net φ n H₀) / (net.nodes.length : ℝ)) atTop
      (nhds (1 - outerSum net (limitTable (sweep net φ H₀) L) / (net.nodes.length : ℝ))) :=
  ⟨limit_table_reads_limit hconv, limit_is_fixed_point hconv (limit_table_reads_limit hconv),
   sameRead_sweeps_of_fixed net φ (limit_is_fixed_point hconv (limit_table_reads_limit hconv)),
   (value_converges hconv (limit_table_reads_limit hconv)).2⟩

/-- **The uniform start of the repository.**  On a network whose labelled edges have both end points among the
listed members of their motif (`ends_in_verts`: it follows from `Consistent net`), if the iterates from
`initH net (1/2)` converge entry-wise to `L`, then the table `H*` with the keys of the start and the entries `L`
* reads `L` at every key,
* is a fixed point of the sweep — as a table — and of any number of sweeps, and
* `theoreticalReal net n φ` converges to `1 - outerSum net H* / N`. -/
theorem uniform_start_limit {net : Net} (hv : EndsInVerts net) {φ : ℝ} {L : Nat × Nat → ℝ}
    (hconv : ConvergesTo net φ (initH net (1/2)) L) :
    Dict.keys (limitTable (initH net (1/2 : ℝ)) L) = Dict.keys (initH net (1/2 : ℝ)) ∧
    (∀ k, readH (limitTable (initH net (1/2 : ℝ)) L) k = L k) ∧
    sweep net φ (limitTable (initH net (1/2 : ℝ)) L) = limitTable (initH net (1/2 : ℝ)) L ∧
    (∀ m, sweeps net φ m (limitTable (initH net (1/2 : ℝ)) L) = limitTable (initH net (1/2 : ℝ)) L) ∧
    Tendsto (fun n => theoreticalReal net n φ) atTop
      (nhds (1 - outerSum net (limitTable (initH net (1/2 : ℝ)) L) / (net.nodes.length : ℝ))) := by
  have hkeys : EdgeKeysIn net (initH net (1/2 : ℝ)) := edgeKeysIn_initH hv _
  have hfix := limit_table_fixed hkeys (keys_initH_nodup net _) hconv
  exact ⟨keys_limitTable _ _, limit_table_reads_limit_of_edgeKeys hkeys hconv, hfix.1, hfix.2,
    (value_converges hconv (limit_table_reads_limit_of_edgeKeys hkeys hconv)).2⟩

theorem uniform_start_limit_consistent {net : Net} (hc : Consistent net) {φ : ℝ} {L : Nat × Nat → ℝ}
    (hconv : ConvergesTo net φ (initH net (1/2)) L) :
    sweep net φ (limitTable (initH net (1/2 : ℝ)) L) = limitTable (initH net (1/2 : ℝ)) L ∧
    Tendsto (fun n => theoreticalReal net n φ) atTop
      (nhds (1 - outerSum net (limitTable (initH net (1/2 : ℝ)) L) / (net.nodes.length : ℝ))) :=
  have h := uniform_start_limit (fun _ he => ends_in_verts hc he) hconv
  ⟨h.2.2.1, h.2.2.2.2⟩

/-! ### the real run from rational data is the rational run of the model -/

theorem cast_readH_finalH (net : Net) (iterations : Nat) (φ : ℚ) (k : Nat × Nat) :
    readH (finalH net iterations (φ : ℝ) (1/2)) k = ((readH (finalH net iterations φ (1/2)) k : ℚ) : ℝ) := by
  have hhalf : Rat.castHom ℝ (1/2) = (1/2 : ℝ) := by simp
  exact (readH_sweeps_map (Rat.castHom ℝ) net φ iterations
    (fun k => hhalf ▸ readH_initH_map (Rat.castHom ℝ) net (1/2) k) k).symm

theorem cast_value (net : Net) (iterations : Nat) (φ : ℚ) :
    ((1 - outerSum net (finalH net iterations φ (1/2)) / (net.nodes.length : ℚ) : ℚ) : ℝ)
      = theoreticalReal net iterations (φ : ℝ) := by
  unfold theoreticalReal
  rw [← outerSum_map (Rat.castHom ℝ) net fun k => (cast_readH_finalH net iterations φ k).symm]
  simp

/-- `theoreticalReal` at a rational `φ` is the cast of the model's `theoretical` -/
theorem cast_theoretical {net : Net} (hN : net.nodes ≠ []) (iterations : Nat) (φ : ℚ) :
    (theoretical net iterations φ).map (fun v : ℚ => (v : ℝ)) = some (theoreticalReal net iterations (φ : ℝ)) := by
  rw [theoretical_formula hN, Option.map_some, ← cast_value, finalH]

/-- **The statement for the numbers the model computes.**  Rational `φ`, uniform start, end points listed as members
(it follows from `Consistent net`), non-empty vertex list.  If every entry of the rational tables
`finalH net n φ (1/2)` converges in `ℝ`, to `L k` say, then the real table `H*` with the keys of the start and the
entries `L` is a fixed point of the real sweep, and the values `theoretical net n φ` returned by the model converge
to `1 - outerSum net H* / N`. -/
theorem rational_run_limit {net : Net} (hv : EndsInVerts net) (hN : net.nodes ≠ []) {φ : ℚ} {L : Nat × Nat → ℝ}
    (hconv : ∀ k, Tendsto (fun n => ((readH (finalH net n φ (1/2)) k : ℚ) : ℝ)) atTop (nhds (L k))) :
    sweep net (φ : ℝ) (limitTable (initH net (1/2 : ℝ)) L) = limitTable (initH net (1/2 : ℝ)) L ∧
    (∀ k, readH (limitTable (initH net (1/2 : ℝ)) L) k = L k) ∧
    ∃ v : Nat → ℚ, (∀ n, theoretical net n φ = some (v n)) ∧
      Tendsto (fun n => ((v n : ℚ) : ℝ)) atTop
        (nhds (1 - outerSum net (limitTable (initH net (1/2 : ℝ)) L) / (net.nodes.length : ℝ))) := by
  have hconv' : ConvergesTo net (φ : ℝ) (initH net (1/2)) L := by
    intro k
    have := hconv k
    simp only [← cast_readH_finalH] at this
    exact this
  have h := uniform_start_limit hv hconv'
  refine ⟨h.2.2.1, h.2.1, fun n => 1 - outerSum net (finalH net n φ (1/2)) / (net.nodes.length : ℚ),
    fun n => theoretical_formula hN n φ, ?_⟩
  simp only [cast_value]
  exact h.2.2.2.2

/-! ### the hypothesis is satisfiable -/

/-- from a table that one sweep reproduces, the iteration is constant: it converges to that table -/
theorem converges_of_fixed {net : Net} {φ : ℝ} {H : HMap ℝ} (hfix : ∀ k, readH (sweep net φ H) k = readH H k) :
    ConvergesTo net φ H (readH H) :=
  fun k => tendsto_atTop_of_eventually_const (i₀ := 0) fun n _ => sameRead_sweeps_of_fixed net φ hfix n k

open Classical in
/-- **At `φ = 0` the iteration converges on every network with well-formed labels, from every start**: after one
sweep every edge key reads `1` and nothing changes any more. -/
theorem converges_at_zero {net : Net} (h : LabelsOk net) (H₀ : HMap ℝ) :
    ConvergesTo net 0 H₀ (fun k => if EdgeKey net k then 1 else readH H₀ k) := by
  refine fun k => tendsto_atTop_of_eventually_const (i₀ := 1) fun n hn => ?_
  show _ = if EdgeKey net k then 1 else readH H₀ k
  split
  · exact (sweeps_zero_read h H₀ k hn).1 ‹_›
  · exact (sweeps_zero_read h H₀ k hn).2 ‹_›

/-- … and the reported value is `0` from the first sweep on (`zero_at_zero` of `Properties/C17.lean`, over `ℝ` and
from any start), so its limit is `0` -/
theorem limit_value_at_zero {net : Net} (h : LabelsOk net) (hN : net.nodes ≠ []) (H₀ : HMap ℝ) :
    Tendsto (fun n => 1 - outerSum net (sweeps net (0 : ℝ) n H₀) / (net.nodes.length : ℝ)) atTop (nhds 0) :=
  tendsto_atTop_of_eventually_const (i₀ := 1) fun _ hn => value_at_zero h hN H₀ hn

/-- a single edge `0 — 1` covered by itself -/
def edge1 : Net := ⟨[0, 1], [(0, 1, ⟨[0, 1], [(0, 1)], 0⟩)]⟩

theorem labelsOk_edge1 : LabelsOk edge1 := by
  simp only [LabelsOk, Automated.Simple]; decide

example : LabelsOk edge1 := labelsOk_edge1

example : EndsInVerts edge1 := by
  simp only [EndsInVerts]; decide

/-- the convergence hypothesis holds on the single edge at `φ = 0` from the uniform start … -/
example : ∃ L, ConvergesTo edge1 0 (initH edge1 (1/2)) L :=
  ⟨_, converges_at_zero labelsOk_edge1 _⟩

/-- … so `uniform_start_limit` applies there: its limit table is a fixed point of the sweep -/
example : ∃ Hstar : HMap ℝ, Dict.keys Hstar = Dict.keys (initH edge1 (1/2 : ℝ)) ∧ sweep edge1 0 Hstar = Hstar :=
  have h := uniform_start_limit (net := edge1) (by simp only [EndsInVerts]; decide)
    (converges_at_zero labelsOk_edge1 _)
  ⟨_, h.1, h.2.2.1⟩

/-- the edge-key hypothesis of `limit_table_reads_limit_of_edgeKeys` / `limit_table_fixed` cannot be dropped: from
the EMPTY start the table "keys of `H₀`, entries `L`" is empty, and the empty table is not reproduced by a sweep
(which creates the edge keys).  For a start without all edge keys use the keys of `sweep net φ H₀`
(`message_passing_limit`). -/
example (L : Nat × Nat → ℝ) :
    ¬ ∀ k, readH (sweep edge1 (0 : ℝ) (limitTable [] L)) k = readH (limitTable ([] : HMap ℝ) L) k := by
  intro h
  have h1 := (sweep_zero_read (R := ℝ) labelsOk_edge1 (limitTable [] L) (0, 0)).1
    ⟨_, List.mem_cons_self, Or.inl rfl⟩
  have h2 := h (0, 0)
  rw [h1] at h2
  simp [limitTable, readH, Dict.get] at h2

/-- a path `0 — 1 — 2` covered by its two edges -/
def path3 : Net := ⟨[0, 1, 2], [(0, 1, ⟨[0, 1], [(0, 1)], 0⟩), (1, 2, ⟨[1, 2], [(1, 2)], 1⟩)]⟩

/-- the table of ones on the four keys of `path3` -/
def onesPath3 : HMap ℚ := [((0, 0), 1), ((1, 0), 1), ((1, 1), 1), ((2, 1), 1)]

theorem path3_two_sweeps : sweeps path3 (1/2 : ℚ) 2 (initH path3 (1/2)) = onesPath3 := by decide +kernel
theorem path3_fixed : sweep path3 (1/2 : ℚ) onesPath3 = onesPath3 := by decide +kernel
/-- after ONE sweep the table is not yet the fixed point (the hypothesis below is not satisfied trivially) -/
example : sweeps path3 (1/2 : ℚ) 1 (initH path3 (1/2)) ≠ onesPath3 := by decide +kernel

/-- the convergence hypothesis at `φ = 1/2` on the path, over `ℝ`, from the uniform start (through the
transport of the rational run: `cast_readH_finalH`) -/
theorem path3_converges :
    ConvergesTo path3 (1/2 : ℝ) (initH path3 (1/2)) (readH (mapH (Rat.castHom ℝ) onesPath3)) := by
  refine fun k => tendsto_atTop_of_eventually_const (i₀ := 2) fun n hn => ?_
  obtain ⟨m, rfl⟩ := Nat.exists_eq_add_of_le hn
  have hq : sweeps path3 (1/2 : ℚ) (2 + m) (initH path3 (1/2)) = onesPath3 := by
    rw [sweeps_add, path3_two_sweeps, sweeps_of_fixed _ _ path3_fixed]
  have := cast_readH_finalH path3 (2 + m) (1/2) k
  rwa [finalH, finalH, hq, show ((1/2 : ℚ) : ℝ) = 1/2 by norm_num, ← Rat.coe_castHom, ← readH_mapH] at this

/-- … and the conclusion of `uniform_start_limit` there -/
example : ∃ Hstar : HMap ℝ, sweep path3 (1/2 : ℝ) Hstar = Hstar ∧
    Tendsto (fun n => theoreticalReal path3 n (1/2)) atTop
      (nhds (1 - outerSum path3 Hstar / (path3.nodes.length : ℝ))) :=
  have h := uniform_start_limit (net := path3) (by simp only [EndsInVerts]; decide) path3_converges
  ⟨_, h.2.2.1, h.2.2.2.2⟩

end Gcmpy.MessagePassing

