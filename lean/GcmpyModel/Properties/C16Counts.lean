import GcmpyModel.Lemmas.HararyPalmer
import GcmpyModel.Lemmas.Cayley
/-
Property C16, counting part (`gcmpy/message_passing/number_connected_graphs.py`; model: `Model/ClosedForms.lean`):
`Q(n, k)`, with its shortcut `if k == n-1: return n**(n-2)`, is the number of connected labelled graphs on `n ≥ 1`
vertices with `k` edges, and agrees with the brute-force `QQ(n, k)`.

The brute-force count `connCount` is the finset count `HP.ccN` (`connCount_eq_ccN`); the recursion without the shortcut
satisfies the Harary–Palmer identity that `ccN` satisfies (`Qgen_eq_connCount`, `Lemmas/HararyPalmer.lean`); the
number of trees is `n^(n-2)` (`cayley`, `Lemmas/Cayley.lean`), so the shortcut changes no entry of the memo table
(`qTable_eq_qTableGen`).  The statements restricted to `n ≤ 12` or `n ≤ 5` are instances.
-/
namespace Gcmpy.ClosedForms
open Gcmpy Gcmpy.Graph Gcmpy.Automated

/-- number of connected labelled graphs on `n` vertices with `k` edges, by definition: edge subsets of K_n -/
def connCount (n k : Nat) : Nat :=
  ((sublists (completeGraph n).edges).filter fun A => A.length = k ∧ connected A (List.range n)).length

/-- **`number_of_connected_graphs(G, ak, i, k)`** is exactly the number of ways of deleting `k` edges from the
subgraph induced on `ak ∪ {i}` such that it stays connected -/
theorem nocg_spec (G : Motif) (ak : List Nat) (i k : Nat) :
    let N' := G.nodes.filter fun n => n = i ∨ n ∈ ak
    let E' := G.edges.filter fun e => e.1 ∈ N' ∧ e.2 ∈ N'
    numberOfConnectedGraphs G ak i k
      = ((sublists E').filter fun comb => comb.length = k ∧ connected (E'.filter (· ∉ comb)) N').length := by
  intro N' E'
  unfold numberOfConnectedGraphs
  exact length_filter_combinations k E' _

/-- no graph on `n` vertices has more than `n(n-1)/2` edges -/
theorem connCount_zero_outside (n k : Nat) (h : k > n * (n - 1) / 2) : connCount n k = 0 := by
  unfold connCount
  rw [List.length_eq_zero_iff, List.filter_eq_nil_iff]
  intro A hA
  have := (mem_sublists_iff.1 hA).length_le
  rw [completeGraph_edges_length] at this
  simp only [decide_eq_true_eq, not_and]
  intro h'; omega

/-- the statement of `Q_eq_connCount` -/
def Q_eq_connCount_full : Prop := ∀ n k, 1 ≤ n → Q n k = (connCount n k : Int)
/-- the statement of `Qgen_eq_connCount` -/
def Qgen_eq_connCount_full : Prop := ∀ n k, 1 ≤ n → Qgen n k = (connCount n k : Int)
/-- the statement of `Q_eq_Qgen_all` -/
def Q_eq_Qgen_full : Prop := ∀ n k, 1 ≤ n → Q n k = Qgen n k

/-- `Q n k = 0` above the number of edges of `K_n` (all `n`, including `n = 0`) -/
theorem Q_zero_outside (n k : Nat) (h : k > n * (n - 1) / 2) : Q n k = 0 := by
  cases n with
  | zero => rw [Q, if_pos rfl, if_neg (by omega)]
  | succ n => rw [Q_succ_eq_qEntry]; exact qEntry_eq_zero (Or.inr h)

/-- `Q n k = 0` below the size of a spanning tree -/
theorem Q_zero_below {n k : Nat} (h : k + 1 < n) : Q n k = 0 := by
  obtain ⟨m, rfl⟩ : ∃ m, n = m + 1 := ⟨n - 1, by omega⟩
  rw [Q_succ_eq_qEntry]; exact qEntry_eq_zero (Or.inl (by omega))

/-- `Q n (n-1) = n^(n-2)` (Cayley), for every `n ≥ 1`: this is the model's shortcut branch -/
theorem Q_trees (n : Nat) (h : 1 ≤ n) : Q n (n - 1) = ((n ^ (n - 2) : Nat) : Int) := by
  obtain ⟨m, rfl⟩ : ∃ m, n = m + 1 := ⟨n - 1, by omega⟩
  rw [Q_succ_eq_qEntry, Nat.add_sub_cancel]
  unfold qEntry
  have hm : m ≤ (m + 1) * m / 2 := by
    rw [Nat.le_div_iff_mul_le (by norm_num)]
    rcases Nat.eq_zero_or_pos m with rfl | hp
    · simp
    · have := Nat.mul_le_mul_right m (show 2 ≤ m + 1 by omega); omega
  have h1 : ¬ (m < m ∨ m > (m + 1) * m / 2) := by omega
  simp only [Nat.add_sub_cancel, h1, if_false, if_true]

/-- the two recursions differ only in the branch `k = n - 1` -/
theorem qEntry_eq_qEntryGen (rows : List (List Int)) (n k : Nat)
    (h : k = n - 1 → qEntryGen rows n k = ((n ^ (n - 2) : Nat) : Int)) :
    qEntry rows n k = qEntryGen rows n k := by
  by_cases hk : k = n - 1
  · rw [h hk]
    subst hk
    by_cases h0 : n - 1 < n - 1 ∨ n - 1 > n * (n - 1) / 2
    · rw [← h rfl, qEntryGen_eq_zero h0, qEntry_eq_zero h0]
    · unfold qEntry; simp only [h0, if_false, if_true]
  · unfold qEntry qEntryGen
    simp only [hk, if_false]

/-- `nx.is_connected` on an edge subset of `K_n`, in the finset vocabulary -/
theorem connected_iff_conn {n : Nat} (hn : 1 ≤ n) {A : List Edge} (hA : A.Sublist (completeGraph n).edges) :
    connected A (List.range n) = true ↔ HP.Conn (Finset.range n) A.toFinset := by
  rw [connected_iff ((completeGraph_wf n).mono hA.subset) (List.ne_nil_of_mem (List.mem_range.2 hn))]
  unfold HP.Conn
  simp only [List.mem_range, Finset.mem_range, percReach_iff]

theorem connCount_eq_cc (n k : Nat) (hn : 1 ≤ n) : connCount n k = HP.cc (Finset.range n) k := by
  classical
  unfold connCount HP.cc
  have hnd := completeGraph_edges_nodup n
  rw [length_filter_sublists_eq _ hnd _ (fun A' => A'.card = k ∧ HP.Conn (Finset.range n) A') fun A hA => by
      rw [decide_eq_true_iff, List.toFinset_card_of_nodup (hA.nodup hnd), connected_iff_conn hn hA],
    completeGraph_edges_toFinset, HP.powerset_filter_card_and]

theorem connCount_eq_ccN (n k : Nat) (hn : 1 ≤ n) : connCount n k = HP.ccN n k := by
  rw [connCount_eq_cc n k hn, HP.cc_eq_ccN, Finset.card_range]

theorem QQ_spec (n k : Nat) (hk : k ≤ n * (n - 1) / 2) : QQ n k = connCount n k := by
  classical
  rcases Nat.eq_zero_or_pos n with rfl | hn
  · obtain rfl : k = 0 := by simpa using hk
    rfl
  unfold QQ
  rw [nocg_spec]
  have hN : ((completeGraph n).nodes.filter fun v => v = 0 ∨ v ∈ (List.range n).filter (0 < ·))
      = List.range n := by
    show ((List.range n).filter _) = _
    rw [List.filter_eq_self]
    intro v hv
    have := List.mem_range.1 hv
    simp only [List.mem_filter, List.mem_range, decide_eq_true_eq]
    omega
  simp only [hN]
  have hE : ((completeGraph n).edges.filter fun e => e.1 ∈ List.range n ∧ e.2 ∈ List.range n)
      = (completeGraph n).edges :=
    List.filter_eq_self.2 fun e he => decide_eq_true ((completeGraph_wf n).2 e he)
  simp only [hE]
  have hnd := completeGraph_edges_nodup n
  -- both counts as finset cardinalities; deleting `D` keeps `E \ D` (`Perc.sum_powerset_sdiff`)
  rw [connCount_eq_cc n k hn, HP.cc, ← HP.powerset_filter_card_and,
    length_filter_sublists_eq _ hnd _
      (fun D => D.card = n * (n - 1) / 2 - k ∧ HP.Conn (Finset.range n) ((completeGraph n).edges.toFinset \ D))
      fun A hA => by
        rw [decide_eq_true_iff, List.toFinset_card_of_nodup (hA.nodup hnd),
          connected_iff_conn hn List.filter_sublist, toFinset_filter_notMem],
    completeGraph_edges_toFinset, Finset.card_filter, Finset.card_filter, ← Perc.sum_powerset_sdiff (HP.pairs _)]
  refine Finset.sum_congr rfl fun D hD => ?_
  have hD := Finset.mem_powerset.1 hD
  have hc : (HP.pairs (Finset.range n)).card = n * (n - 1) / 2 := by
    rw [HP.card_pairs, Finset.card_range, Nat.choose_two_right]
  have hle := Finset.card_le_card hD
  rw [Finset.card_sdiff_of_subset hD, hc, Finset.sdiff_sdiff_eq_self hD]
  rw [hc] at hle
  have e : n * (n - 1) / 2 - D.card = n * (n - 1) / 2 - k ↔ D.card = k := by omega
  simp only [e]

section hararyPalmer
open Finset BigOperators Gcmpy.HP

/-- **C16, counts.** The shortcut-free Harary–Palmer table is the number of connected labelled graphs, all `n ≥ 1`,
all `k`. -/
theorem Qgen_eq_connCount : Qgen_eq_connCount_full := by
  intro n k hn
  rw [Qgen_eq_ccN n hn k, connCount_eq_ccN n k hn]

theorem Qgen_eq_connCount' (n k : Nat) (hn : 1 ≤ n) : Qgen n k = (connCount n k : Int) :=
  Qgen_eq_connCount n k hn

/-- … and equals the repository's brute-force `QQ(n, k)` on its domain -/
theorem Qgen_eq_QQ (n k : Nat) (hn : 1 ≤ n) (hk : k ≤ n * (n - 1) / 2) : Qgen n k = (QQ n k : Int) := by
  rw [QQ_spec n k hk, Qgen_eq_connCount n k hn]

/-- consequence of the main theorem: `Qgen` takes natural-number values … -/
theorem Qgen_nonneg (n k : Nat) (hn : 1 ≤ n) : 0 ≤ Qgen n k := by
  rw [Qgen_eq_connCount n k hn]; exact Int.natCast_nonneg _

/-- … and never exceeds the number of all graphs with `k` edges -/
theorem Qgen_le_choose (n k : Nat) (hn : 1 ≤ n) : Qgen n k ≤ ((n.choose 2).choose k : Int) := by
  rw [Qgen_eq_ccN n hn k, ccN_rec_nat n k hn]
  exact Int.ofNat_le.2 (Nat.le_add_left _ _)

end hararyPalmer

section cayley
open Gcmpy.HP

/-- the statement of `cayley`: Cayley's formula for the brute-force count -/
def cayley_connCount : Prop := ∀ n, 1 ≤ n → connCount n (n - 1) = n ^ (n - 2)

/-- **Cayley's formula** for the brute-force count of connected graphs with `n - 1` edges -/
theorem cayley : cayley_connCount := by
  intro n hn
  rw [connCount_eq_ccN n (n - 1) hn, Gcmpy.Cayley.ccN_cayley n hn]

/-- the memo table with the Cayley shortcut IS the shortcut-free table: the only entries computed differently are
`Qgen (n+1) n`, the number of trees (`Qgen_eq_connCount`), which is `(n+1)^(n-1)` (`cayley`) -/
theorem qTable_eq_qTableGen : ∀ n, qTable n = qTableGen n
  | 0 => rfl
  | n+1 => by
    rw [qTable_succ, qTableGen_succ, qTable_eq_qTableGen n]
    congr 2
    unfold qRow
    rw [Nat.add_sub_cancel]
    apply List.map_congr_left
    intro k _
    apply qEntry_eq_qEntryGen
    intro hk
    rw [← Qgen_succ_eq_qEntryGen, Qgen_eq_connCount (n + 1) k (by omega), hk, cayley (n + 1) (by omega)]

/-- the table with the Cayley shortcut equals the shortcut-free Harary–Palmer table, all `n ≥ 1`, all `k` -/
theorem Q_eq_Qgen_all : Q_eq_Qgen_full := by
  intro n k hn
  unfold Q Qgen
  rw [if_neg (by omega), qTable_eq_qTableGen]

/-- `Q(n, k)` (recursion with the Cayley shortcut) is the number of connected labelled graphs, all `n ≥ 1`, all `k` -/
theorem Q_eq_connCount : Q_eq_connCount_full := by
  intro n k hn
  rw [Q_eq_Qgen_all n k hn, Qgen_eq_connCount n k hn]

/-- `Q` agrees with the repository's brute-force counter `QQ` on its whole domain -/
theorem Q_eq_QQ (n k : Nat) (hn : 1 ≤ n) (hk : k ≤ n * (n - 1) / 2) : Q n k = (QQ n k : Int) := by
  rw [QQ_spec n k hk, Q_eq_connCount n k hn]

/-- exactly one connected graph uses all edges -/
theorem Q_complete_all (n : Nat) (h : 1 ≤ n) : Q n (n * (n - 1) / 2) = 1 := by
  rw [Q_eq_connCount n _ h, connCount_eq_ccN n _ h, ← Nat.choose_two_right, ccN_complete]; rfl

end cayley

theorem Q_eq_Qgen_table : qTable 12 = qTableGen 12 := qTable_eq_qTableGen 12

theorem Q_eq_Qgen (n k : Nat) (h : 1 ≤ n) (h' : n ≤ 12) : Q n k = Qgen n k := Q_eq_Qgen_all n k h

theorem Qgen_trees (n : Nat) (h : 1 ≤ n) (h' : n ≤ 12) : Qgen n (n - 1) = ((n ^ (n - 2) : Nat) : Int) := by
  rw [← Q_eq_Qgen_all n _ h, Q_trees n h]

theorem Q_complete (n : Nat) (h : 1 ≤ n) (h' : n ≤ 12) : Q n (n * (n - 1) / 2) = 1 := Q_complete_all n h

theorem Q_eq_connCount_small :
    ∀ n, 1 ≤ n → n ≤ 5 → ∀ k, k ≤ n * (n - 1) / 2 → Q n k = (connCount n k : Int) :=
  fun n h1 _ k _ => Q_eq_connCount n k h1

theorem Q_eq_QQ_small (n k : Nat) (h1 : 1 ≤ n) (h5 : n ≤ 5) (hk : k ≤ n * (n - 1) / 2) : Q n k = (QQ n k : Int) :=
  Q_eq_QQ n k h1 hk

theorem cayley_le12 (n : Nat) (h1 : 1 ≤ n) (h12 : n ≤ 12) : (connCount n (n - 1) : Int) = ((n ^ (n - 2) : Nat) : Int) :=
  congrArg _ (cayley n h1)

end Gcmpy.ClosedForms
