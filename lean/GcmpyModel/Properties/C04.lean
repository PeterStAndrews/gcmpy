import GcmpyModel.Lemmas.Network
/-!
# C04 — edge list <-> network conversion

`InRange el`: every vertex of an edge row is `< N`, `N` the number of joint-degree rows.  `Parallel el`: the three
columns have equal length.  Both hold of what the generators produce (C01, C02).  The sentences of the property,
as numbered below:

* T1  one vertex per entry of the joint degree sequence, degree-zero vertices included;
* T2  each vertex annotated with its joint degree;
* T3  an edge between two vertices exactly when that pair occurs in the edge list (a), stored once (b);
* T4  an edge whose pair occurs once carries that entry's topology name and motif id;
* T5  converting back returns the same joint degree sequence (b: always) and, without repeated pairs, the same
      annotated rows up to orientation;
* T6  network → edge list → network is the identity on converted networks;
* T7  the `KeyError` of the reverse conversion when the node labels are not `0 .. order-1` (what happened on the
      pinned tree when degree-zero vertices vanished).

For a repeated pair the property does not say which row's attributes win, and nothing is proved about it beyond
`edge_attrs` (they are those of one of the rows with that pair).
-/
namespace Gcmpy.Network
open Gcmpy

/-- T1: the node list is exactly `0 .. N-1` (zero-degree vertices included), in that order -/
theorem nodes_exact (el : EL) (h : InRange el) :
    (toNetwork el).nodes = List.range el.jointDegrees.length := by
  rw [toNetwork_nodes, (addEdges_eq _ _ _).1]
  refine Dict.foldl_addKey_of_subset _ _ fun v hv => ?_
  obtain ⟨e, he, hv⟩ := List.mem_flatMap.1 hv
  have := h e he
  rcases List.mem_cons.1 hv with rfl | hv
  · exact List.mem_range.2 this.1
  · exact List.mem_range.2 (List.mem_singleton.1 hv ▸ this.2)

theorem jd_exact (el : EL) (h : InRange el) :
    (toNetwork el).jd = el.jointDegrees.zipIdx.map fun (j, n) => (n, j) := by
  rw [toNetwork_jd, nodes_exact el h, setJd_eq, List.filter_eq_self.2,
    Dict.setAll_nil_of_nodup (keys_enum el.jointDegrees ▸ List.nodup_range)]
  intro x hx
  have : x.1 ∈ Dict.keys _ := List.mem_map_of_mem hx
  simpa [keys_enum] using this

/-- T2: every vertex carries its joint degree -/
theorem node_annotated (el : EL) (h : InRange el) (v : Nat) (hv : v < el.jointDegrees.length) :
    Dict.get (toNetwork el).jd v = some (el.jointDegrees[v]) := by
  rw [jd_exact el h]
  exact Dict.get_of_mem _ (keys_enum el.jointDegrees ▸ List.nodup_range) (v, el.jointDegrees[v])
    (List.mem_map.2 ⟨(_, v), List.mem_zipIdx_iff_getElem?.2 (List.getElem?_eq_getElem hv), rfl⟩)

/-- T3a: the undirected edges of the network are exactly the normalised pairs of the edge rows -/
theorem edge_iff_pair_occurs (el : EL) (k : Key) :
    k ∈ (toNetwork el).edges.map (·.1) ↔ ∃ e ∈ el.edges, norm e = k := by
  show k ∈ Dict.keys _ ↔ _
  rw [keys_toNetwork_edges, Dict.mem_foldl_addKey]
  simp

/-- T3b: no undirected edge is stored twice -/
theorem edge_keys_nodup (el : EL) : ((toNetwork el).edges.map (·.1)).Nodup := by
  show (Dict.keys _).Nodup
  rw [keys_toNetwork_edges]
  exact Dict.nodup_foldl_addKey List.nodup_nil

/-- T4: a pair that occurs in one row only carries that row's topology and motif id -/
theorem attrs_of_unique_pair (el : EL) (hp : Parallel el) (i : Nat) (hi : i < el.edges.length)
    (huniq : ∀ j, (hj : j < el.edges.length) → norm (el.edges[j]) = norm (el.edges[i]) → j = i) :
    Dict.get (toNetwork el).edges (norm el.edges[i]) =
      some (some (el.topologies[i]'(hp.1 ▸ hi)), some (el.motifId[i]'(hp.2 ▸ hi))) := by
  have hl : i < el.rows.length := by
    rw [List.length_zip, List.length_zip, hp.1, hp.2, Nat.min_self, Nat.min_self]; exact hi
  obtain ⟨r, hr, hk, hg⟩ :=
    edge_attrs el (norm el.edges[i]) ⟨el.rows[i], List.getElem_mem hl, by rw [List.getElem_zip]⟩
  obtain ⟨j, hj, rfl⟩ := List.getElem_of_mem hr
  rw [List.getElem_zip] at hk
  obtain rfl := huniq j (List.lt_length_left_of_zip hj) hk
  rw [hg, List.getElem_zip, List.getElem_zip]

theorem edges_full (el : EL) (hp : Parallel el) :
    ∀ x ∈ (toNetwork el).edges, ∃ r ∈ el.rows, norm r.1 = x.1 ∧ x.2 = (some r.2.1, some r.2.2) := by
  intro x hx
  obtain ⟨e, he, hek⟩ := (edge_iff_pair_occurs el x.1).1 (List.mem_map_of_mem hx)
  obtain ⟨r, hr, rfl⟩ := List.mem_map.1 (hp.rows_fst ▸ he)
  obtain ⟨r', hr', hk, hg⟩ := edge_attrs el x.1 ⟨r, hr, hek⟩
  rw [Dict.get_of_mem _ (edge_keys_nodup el) x hx] at hg
  exact ⟨r', hr', hk, Option.some.inj hg⟩

theorem edges_of_nodup (el : EL) (hp : Parallel el) (hn : (el.edges.map norm).Nodup) :
    (toNetwork el).edges = el.rows.map fun r => (norm r.1, (some r.2.1, some r.2.2)) := by
  have hk : Dict.keys (el.rows.map fun r => (norm r.1, ((some r.2.1, some r.2.2) : Attr))) = el.edges.map norm := by
    rw [Dict.keys, List.map_map]; exact hp.rows_norm
  refine Dict.ext_of_keys_eq ?_ (hk ▸ hn) fun k hkk => ?_
  · rw [keys_toNetwork_edges, hk]; exact Dict.foldl_addKey_of_nodup _ _ hn
  · obtain ⟨r, hr, rfl⟩ := List.mem_map.1 (hp.rows_norm ▸ hk ▸ hkk)
    obtain ⟨r', hr', e, hg⟩ := edge_attrs el _ ⟨r, hr, rfl⟩
    rw [hg, ← e]
    exact (Dict.get_of_mem _ (hk ▸ hn) (_, _) (List.mem_map_of_mem (f := fun r => (norm r.1, _)) hr')).symm

/-- what the reverse conversion returns for a network whose edges all carry both attributes -/
def returnedEL (net : Net) (jds : List (List Nat)) : EL :=
  { edges := net.edges.map (·.1), topologies := net.edges.map (·.2.1.getD ""),
    motifId := net.edges.map (·.2.2.getD 0), jointDegrees := jds }

theorem toEdgeList_toNetwork (el : EL) (h : InRange el) (hp : Parallel el) :
    toEdgeList (toNetwork el) = some (returnedEL (toNetwork el) el.jointDegrees) := by
  refine toEdgeList_eq_some _ _ _ _ ?_ ?_ ?_
  · rw [nodes_exact el h, List.length_range]
    refine List.ext_getElem (by simp) fun i h1 _ => ?_
    have hi : i < el.jointDegrees.length := by simpa using h1
    simp [hi, node_annotated el h i hi]
  all_goals
    rw [List.map_map]
    refine List.map_congr_left fun x hx => ?_
    obtain ⟨r, _, _, e⟩ := edges_full el hp x hx
    simp [e]

/-- T5b: the reverse conversion succeeds on every converted edge list (pairs may repeat); it returns
    the joint degrees unchanged and one row per undirected edge of the network -/
theorem roundtrip_jds (el : EL) (h : InRange el) (hp : Parallel el) :
    ∃ el', toEdgeList (toNetwork el) = some el' ∧ el'.jointDegrees = el.jointDegrees ∧
      el'.edges = (toNetwork el).edges.map (·.1) :=
  ⟨_, toEdgeList_toNetwork el h hp, rfl, rfl⟩

/-- T5: without repeated pairs the round trip returns the edge list itself, rows normalised -/
theorem roundtrip_edgelist (el : EL) (h : InRange el) (hp : Parallel el)
    (hn : (el.edges.map norm).Nodup) :
    toEdgeList (toNetwork el) =
      some { edges := el.edges.map norm, topologies := el.topologies, motifId := el.motifId,
             jointDegrees := el.jointDegrees } := by
  rw [toEdgeList_toNetwork el h hp, returnedEL, edges_of_nodup el hp hn]
  simp only [List.map_map, Function.comp_def, Option.getD_some, hp.rows_snd.1, hp.rows_snd.2, hp.rows_norm]

/-- T6: network -> edge list -> network is the identity on converted networks -/
theorem roundtrip_network (el : EL) (h : InRange el) (hp : Parallel el) :
    ∃ el', toEdgeList (toNetwork el) = some el' ∧ toNetwork el' = toNetwork el := by
  -- the returned list has normalised, pairwise distinct pairs, so `edges_of_nodup` gives its edge dict in closed
  -- form: the rows of the returned list, which were read off the edge dict of `toNetwork el`
  refine ⟨_, toEdgeList_toNetwork el h hp, ?_⟩
  have hkey : ∀ x ∈ (toNetwork el).edges, ∃ e ∈ el.edges, norm e = x.1 := fun x hx =>
    (edge_iff_pair_occurs el x.1).1 (List.mem_map_of_mem hx)
  have hnorm : ∀ x ∈ (toNetwork el).edges, norm x.1 = x.1 := fun x hx => by
    obtain ⟨e, _, he⟩ := hkey x hx; rw [← he, norm_norm]
  have hr' : InRange (returnedEL (toNetwork el) el.jointDegrees) := fun k hk => by
    obtain ⟨x, hx, rfl⟩ := List.mem_map.1 hk
    obtain ⟨e, he, hek⟩ := hkey x hx
    exact hek ▸ norm_lt (h e he)
  have hmap : (returnedEL (toNetwork el) el.jointDegrees).edges.map norm = (toNetwork el).edges.map (·.1) := by
    rw [returnedEL, List.map_map]; exact List.map_congr_left hnorm
  refine Net.ext ?_ ?_ ?_
  · rw [nodes_exact _ hr', nodes_exact el h]; rfl
  · rw [jd_exact _ hr', jd_exact el h]; rfl
  · rw [edges_of_nodup _ (by simp [Parallel, returnedEL]) (hmap ▸ edge_keys_nodup el)]
    simp only [EL.rows, returnedEL, List.zip_map', List.map_map]
    refine (List.map_congr_left fun x hx => ?_).trans (List.map_id _)
    obtain ⟨r, _, _, e⟩ := edges_full el hp x hx
    simp [hnorm x hx, e, Prod.ext_iff]

/-- T7: `KeyError` of the reverse conversion when the node labels are not `0 .. order-1` -/
theorem reverse_keyerror (net : Net) (n : Nat) (hn : n < net.nodes.length) (hnot : n ∉ net.nodes) :
    toEdgeList net = none := by
  simp [toEdgeList, List.mapM_option_eq_none (f := fun n => if n ∈ net.nodes then Dict.get net.jd n else none)
    (List.mem_range.2 hn) (if_neg hnot)]

/-! ## Non-vacuity: a concrete edge list with a zero-degree vertex (4), a pair repeated in both
orientations (`(0,1)`, `(1,0)`) and a self-loop (`(2,2)`) -/

def exEL : EL :=
  { edges := [(0, 1), (1, 0), (2, 2), (3, 1)], topologies := ["a", "b", "c", "d"],
    motifId := [10, 11, 12, 13], jointDegrees := [[1], [2], [1], [1], [0]] }

/-- the hypotheses of T1, T2, T5b, T6 hold; the pair-uniqueness hypothesis of T4 holds for rows 2, 3
    and fails for rows 0, 1; the no-repeated-pair hypothesis of T5 fails -/
example : InRange exEL ∧ Parallel exEL ∧ ¬ (exEL.edges.map norm).Nodup := by
  unfold InRange Parallel; decide +kernel

/-- the converted network: vertex 4 is a node, the repeated pair is stored once with the attributes
    of its last row, the self-loop is an edge, keys are normalised -/
example : toNetwork exEL =
    { nodes := [0, 1, 2, 3, 4],
      jd := [(0, [1]), (1, [2]), (2, [1]), (3, [1]), (4, [0])],
      edges := [((0, 1), (some "b", some 11)), ((2, 2), (some "c", some 12)),
                ((1, 3), (some "d", some 13))] } := by
  decide +kernel

/-- the round trip succeeds, keeps the joint degrees and reproduces the network (T5b, T6) -/
example : toEdgeList (toNetwork exEL) =
      some { edges := [(0, 1), (2, 2), (1, 3)], topologies := ["b", "c", "d"], motifId := [11, 12, 13],
             jointDegrees := [[1], [2], [1], [1], [0]] } ∧
    (toEdgeList (toNetwork exEL)).map toNetwork = some (toNetwork exEL) := by
  decide +kernel

/-- T5 is not vacuous: dropping the repeated row gives an edge list with pairwise distinct pairs -/
example : let el : EL := { exEL with edges := [(1, 0), (2, 2), (3, 1)], topologies := ["b", "c", "d"],
                                       motifId := [11, 12, 13] }
    InRange el ∧ Parallel el ∧ (el.edges.map norm).Nodup := by
  unfold InRange Parallel; decide +kernel

/-- T7 is not vacuous: a network whose two nodes are labelled 0 and 2 -/
example : toEdgeList { nodes := [0, 2], jd := [(0, []), (2, [])], edges := [] } = none := by
  decide +kernel

end Gcmpy.Network
