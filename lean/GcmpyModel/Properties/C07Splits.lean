import GcmpyModel.Model.SplitDegree
import GcmpyModel.Lemmas.ListFacts
/-!
Property C07, first part: `get_valid_joint_degrees` (`validSplits`) enumerates exactly the admissible splits of a
degree, each once.
-/
namespace Gcmpy.SplitDegree
open Gcmpy Gcmpy.Loaders

theorem edgesOf_append_singleton (row : JD) (i : Nat) :
    edgesOf (row ++ [i]) = edgesOf row + (row.length + 1) * i := by
  simp [edgesOf, List.zipIdx_append]

/-- proof: a split of `k` over `t + 2` topologies is a split of `k − i (t + 2)` over `t + 1` with `i` appended -/
theorem validSplits_spec {k t : Nat} {jd : JD} :
    jd ∈ validSplits k t ↔ 1 ≤ t ∧ jd.length = t ∧ edgesOf jd = k := by
  fun_induction validSplits k t generalizing jd with
  | case1 => simp
  | case2 r =>
    rw [List.mem_singleton]
    constructor
    · rintro rfl; simp [edgesOf]
    · rintro ⟨_, hl, he⟩
      match jd, hl with
      | [a], _ => simpa [edgesOf] using he
  | case3 r t ih =>
    simp only [List.mem_flatMap, List.mem_map, List.mem_range, ih]
    constructor
    · rintro ⟨i, hi, row, ⟨_, hl, he⟩, rfl⟩
      have : i * (t + 2) ≤ r := (Nat.le_div_iff_mul_le (Nat.succ_pos _)).1 (Nat.le_of_lt_succ hi)
      refine ⟨Nat.succ_pos _, by simp [hl], ?_⟩
      rw [edgesOf_append_singleton, he, hl, show (t + 1 + 1) * i = i * (t + 2) from Nat.mul_comm ..]
      exact Nat.sub_add_cancel this
    · rintro ⟨_, hl, he⟩
      have hne : jd ≠ [] := by rintro rfl; simp at hl
      obtain ⟨row, i, rfl⟩ : ∃ row i, jd = row ++ [i] :=
        ⟨jd.dropLast, jd.getLast hne, (List.dropLast_concat_getLast hne).symm⟩
      have hrl : row.length = t + 1 := by simpa using hl
      rw [edgesOf_append_singleton, hrl, show (t + 1 + 1) * i = i * (t + 2) from Nat.mul_comm ..] at he
      exact ⟨i, Nat.lt_succ_of_le ((Nat.le_div_iff_mul_le (Nat.succ_pos _)).2 (he ▸ Nat.le_add_left ..)), row,
        ⟨Nat.succ_pos _, hrl, Nat.eq_sub_of_add_eq he⟩, rfl⟩

theorem validSplits_sound {k t : Nat} {jd : JD} (h : jd ∈ validSplits k t) :
    jd.length = t ∧ edgesOf jd = k :=
  (validSplits_spec.1 h).2

theorem validSplits_complete {k t : Nat} {jd : JD} (ht : 1 ≤ t) (hl : jd.length = t)
    (he : edgesOf jd = k) : jd ∈ validSplits k t :=
  validSplits_spec.2 ⟨ht, hl, he⟩

theorem mem_validSplits_iff {k t : Nat} {jd : JD} (ht : 1 ≤ t) :
    jd ∈ validSplits k t ↔ jd.length = t ∧ edgesOf jd = k :=
  validSplits_spec.trans (and_iff_right ht)

theorem validSplits_nodup (k t : Nat) : (validSplits k t).Nodup := by
  fun_induction validSplits k t with
  | case1 => simp
  | case2 r => simp
  | case3 r t ih =>
    refine List.nodup_flatMap_map List.nodup_range (fun i _ => ih i) fun i j a b h => ?_
    have := List.append_inj' h rfl
    exact ⟨List.singleton_inj.1 this.2, this.1⟩

end Gcmpy.SplitDegree
