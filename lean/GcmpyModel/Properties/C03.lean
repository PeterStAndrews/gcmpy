import Mathlib.Data.List.Nodup
import GcmpyModel.Lemmas.Shuffle
import GcmpyModel.Lemmas.Generate
import GcmpyModel.Lemmas.ListFacts
/-!
# C03 — stub matching is uniformly random (configuration-model measure)

Assumption (not a theorem): successive `randbelow(i+1)` results are independent and uniform.
Under it every *valid draw sequence* for a list of `n` stubs has probability `1/n!`.
The theorems show that the map  draw sequence ↦ arrangement of (labelled) stubs  is a bijection,
so every assignment of stubs to motif slots has probability exactly `1/n!`, independently per
topology (separate shuffles consume separate draw sequences).
-/
namespace Gcmpy.Shuffle
variable {α β : Type}

def fact : Nat → Nat
  | 0 => 1
  | n+1 => (n+1) * fact n

/-- all valid draw sequences for a list of `n` items -/
def validDraws : Nat → List (List Nat)
  | 0 => [[]]
  | 1 => [[]]
  | n+2 => (List.range (n+2)).flatMap fun j => (validDraws (n+1)).map (j :: ·)

theorem mem_validDraws (n : Nat) (cs : List Nat) : cs ∈ validDraws n ↔ Valid n cs := by
  induction n generalizing cs with
  | zero => simp [validDraws, Valid]
  | succ n ih =>
    cases n with
    | zero => simp [validDraws, Valid]
    | succ n =>
      simp only [validDraws, List.mem_flatMap, List.mem_range, List.mem_map]
      constructor
      · rintro ⟨j, hj, cs', hcs', rfl⟩
        exact ⟨by omega, (ih cs').1 hcs'⟩
      · intro h
        cases cs with
        | nil => exact h.elim
        | cons j cs' => exact ⟨j, by have := h.1; omega, cs', (ih cs').2 h.2, rfl⟩

theorem length_validDraws (n : Nat) : (validDraws n).length = fact n := by
  induction n with
  | zero => rfl
  | succ n ih =>
    cases n with
    | zero => rfl
    | succ n =>
      rw [validDraws, List.length_flatMap, List.map_congr_left fun j _ => List.length_map _, List.map_const',
        List.sum_replicate_nat, List.length_range, ih]
      rfl

theorem validDraws_nodup (n : Nat) : (validDraws n).Nodup := by
  fun_induction validDraws n with
  | case1 | case2 => exact List.nodup_singleton _
  | case3 n ih => exact List.nodup_flatMap_map List.nodup_range (fun _ _ => ih) fun _ _ _ _ => List.cons.inj

/-- **Exact uniformity.**  For a duplicate-free (labelled) stub list, every arrangement is produced by
    exactly one of the `n!` equiprobable valid draw sequences. -/
theorem each_arrangement_once [DecidableEq α] (l p : List α) (hl : l.Nodup) (hp : p.Perm l) :
    ((validDraws l.length).filter (fun cs => shuffle l.length l cs = p)).length = 1 := by
  rcases shuffle_bijective l p hl hp with ⟨cs, ⟨hv, hs⟩, huniq⟩
  -- among the valid draw sequences, producing `p` is being `cs`
  rw [List.filter_congr (q := (· = cs)) fun x hx => decide_eq_decide.2
      ⟨fun h => huniq x ⟨(mem_validDraws _ x).1 hx, h⟩, fun h => h ▸ hs⟩,
    List.filter_eq, (validDraws_nodup _).count, if_pos ((mem_validDraws _ cs).2 hv)]
  rfl

theorem exists_perm_map (f : α → β) (p : List β) (L : List α) (h : (L.map f).Perm p) :
    ∃ q : List α, q.Perm L ∧ q.map f = p := by
  classical
  induction p generalizing L with
  | nil => exact ⟨[], by rw [List.map_eq_nil_iff.1 h.eq_nil], rfl⟩
  | cons a t ih =>
    obtain ⟨x, hx, rfl⟩ := List.mem_map.1 (h.mem_iff.2 List.mem_cons_self)
    have hLe := List.perm_cons_erase hx
    obtain ⟨q, hq, rfl⟩ := ih (L.erase x) ((hLe.map f).symm.trans h).cons_inv
    exact ⟨x :: q, (hq.cons x).trans hLe.symm, rfl⟩

theorem swap_map (f : α → β) (l : List α) (i j : Nat) : (swap l i j).map f = swap (l.map f) i j := by
  unfold swap
  simp only [List.getElem?_map]
  cases hi : l[i]? <;> cases hj : l[j]? <;> simp [List.map_set]

/-- shuffling commutes with relabelling: the code shuffles bare vertex ids, which is the image of
    shuffling labelled stubs -/
theorem shuffle_map (f : α → β) (n : Nat) (l : List α) (cs : List Nat) :
    (shuffle n l cs).map f = shuffle n (l.map f) cs := by
  fun_induction shuffle n l cs with
  | case1 | case2 | case3 => simp [shuffle]
  | case4 n l j cs ih => rw [shuffle, ih, swap_map]

/-- no arrangement is unreachable; no `Nodup` is needed, the stub list repeats vertex ids -/
theorem every_arrangement_reachable (l p : List α) (hp : p.Perm l) :
    ∃ cs, shuffle l.length l cs = p := by
  -- label the stubs by position, use surjectivity on the labelled list, forget the labels
  have hl : l.zipIdx.Nodup := List.Nodup.of_map Prod.snd (by rw [List.zipIdx_map_snd]; exact List.nodup_range' ..)
  obtain ⟨q, hq, rfl⟩ := exists_perm_map Prod.fst p l.zipIdx (by rw [List.zipIdx_map_fst]; exact hp.symm)
  obtain ⟨cs, ⟨_, hs⟩, _⟩ := shuffle_bijective l.zipIdx q hl hq
  exact ⟨cs, by rw [← hs, shuffle_map, List.zipIdx_map_fst, List.length_zipIdx]⟩

/-- **Independence per topology.**  Separate shuffles consume separate draw sequences; the joint map
    from tuples of valid draw sequences to tuples of arrangements is a bijection (product measure). -/
theorem product_bijective (Ls Ps : List (List α)) (hl : ∀ l ∈ Ls, l.Nodup)
    (hp : List.Forall₂ (fun p l => p.Perm l) Ps Ls) :
    ∃ css : List (List Nat),
      List.Forall₂ (fun cs lp => Valid lp.1.length cs ∧ shuffle lp.1.length lp.1 cs = lp.2) css (Ls.zip Ps) ∧
      ∀ css', List.Forall₂ (fun cs lp => Valid lp.1.length cs ∧ shuffle lp.1.length lp.1 cs = lp.2) css' (Ls.zip Ps)
        → css' = css := by
  induction hp with
  | nil => exact ⟨[], List.Forall₂.nil, fun css' h => by cases h; rfl⟩
  | @cons p l Ps Ls hpl _ ih =>
    rcases ih (fun l' hl' => hl l' (List.mem_cons_of_mem _ hl')) with ⟨css, hcss, huniq⟩
    rcases shuffle_bijective l p (hl l (List.mem_cons_self ..)) hpl with ⟨cs, hcs, hu⟩
    refine ⟨cs :: css, List.Forall₂.cons hcs hcss, ?_⟩
    intro css' h
    cases h with
    | cons h1 h2 => rw [hu _ h1, huniq _ h2]

end Gcmpy.Shuffle

namespace Gcmpy.Generate
open Gcmpy.Shuffle

/-- the generator's shuffled stub list is the image, under "forget the label", of the shuffle of the
    labelled stubs `(vertex, stub index)` with the same draws -/
theorem shuffled_is_unlabelled (jds : List (List Nat)) (draws : List (List Nat)) (k : Nat) (hk : k < ncols jds) :
    (shuffled jds draws).getD k [] =
      (shuffle (stubs jds k).length (stubs jds k).zipIdx (draws.getD k [])).map Prod.fst := by
  rw [shuffled_getD jds draws k hk, shuffle_map, List.zipIdx_map_fst]

/-- the two 2-cliques cut from a shuffled list of four stubs, as a matching in normal form (smaller end point
    first, pairs in order) -/
def matchingOf (σ : List Nat) : List (List Nat) :=
  let gs := (chunks 2 σ).map fun c => (if c.getD 0 0 ≤ c.getD 1 0 then c else c.reverse)
  if (gs.getD 0 []).getD 0 0 ≤ (gs.getD 1 []).getD 0 0 then gs else gs.reverse

/-- four degree-1 vertices, 2-cliques: 24 equiprobable draw sequences, each of the three perfect
    matchings arises from exactly 8 of them (probability 1/3) -/
theorem example_four_leaves :
    (validDraws 4).length = 24 ∧
    ∀ M ∈ [[[0, 1], [2, 3]], [[0, 2], [1, 3]], [[0, 3], [1, 2]]],
      ((validDraws 4).filter fun cs => matchingOf ((shuffled [[1], [1], [1], [1]] [cs]).getD 0 []) = M).length = 8 := by
  decide +kernel

end Gcmpy.Generate
