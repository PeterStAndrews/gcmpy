import GcmpyModel.Lemmas.Loaders
import GcmpyModel.Lemmas.ListFacts
import Mathlib.Data.List.Forall2
import Mathlib.Algebra.Order.BigOperators.GroupWithZero.List
/-!
Property C06, first part: what the loaders are made of — `Counter` and the frequency table, `range`,
`itertools.product`, the product of the marginals, the calls of `random.choices`.
-/
namespace Gcmpy.Loaders
open Gcmpy

/-- `Counter(jds)[k]` is the number of occurrences of `k`; absent keys are absent -/
theorem get_counter (jds : List JD) (k : JD) :
    Dict.get (counter jds) k = if k ∈ jds then some (jds.count k) else none := by
  rw [counter, counterFrom_eq_tally]
  exact (Dict.get_tally_count id 1 jds k fun _ _ e => e).trans
    (Counters.ite_some_congr Iff.rfl fun _ => (nsmul_one _).trans (Nat.cast_id _))

/-- `convert_jds_to_jdd`: `jdd[k] = count(k) / len(jds)` exactly on the keys that occur -/
theorem empirical_freq (jds : List JD) (k : JD) :
    Dict.get (empirical jds) k =
      if k ∈ jds then some ((jds.count k : Rat) / (jds.length : Rat)) else none := by
  rw [empirical_eq, Dict.get_map_val (counter jds) (fun _ c => ((c : Nat) : Rat) / (jds.length : Rat)),
    get_counter]
  split <;> rfl

theorem empirical_getD (jds : List JD) (k : JD) :
    (Dict.get (empirical jds) k).getD 0 = ((jds.count k : Nat) : Rat) / (jds.length : Rat) := by
  rw [empirical_freq]
  split
  · rfl
  · next h => simp [List.count_eq_zero_of_not_mem h]

theorem mem_rangeAB (a b x : Nat) : x ∈ rangeAB a b ↔ a ≤ x ∧ x < b := by
  simp only [rangeAB, List.mem_map, List.mem_range]
  constructor
  · rintro ⟨y, hy, rfl⟩; exact ⟨Nat.le_add_left .., Nat.add_lt_of_lt_sub hy⟩
  · rintro ⟨h1, h2⟩; exact ⟨x - a, Nat.sub_lt_sub_right h1 h2, Nat.sub_add_cancel h1⟩

theorem rangeAB_nodup (a b : Nat) : (rangeAB a b).Nodup :=
  List.nodup_range.map fun _ _ h => Nat.add_right_cancel h

theorem mem_product (ks : List (List Nat)) (jd : JD) :
    jd ∈ product ks ↔ List.Forall₂ (fun x l => x ∈ l) jd ks := by
  induction ks generalizing jd with
  | nil => simp [product]
  | cons l rest ih =>
    simp only [product, List.mem_flatMap, List.mem_map]
    constructor
    · rintro ⟨k, hk, r, hr, rfl⟩; exact .cons hk ((ih r).1 hr)
    · rintro (_ | ⟨hk, hr⟩); exact ⟨_, hk, _, (ih _).2 hr, rfl⟩

theorem product_nodup (ks : List (List Nat)) (h : ∀ l ∈ ks, l.Nodup) : (product ks).Nodup := by
  induction ks with
  | nil => simp [product]
  | cons l rest ih =>
    rw [List.forall_mem_cons] at h
    exact List.nodup_flatMap_map h.1 (fun _ _ => ih h.2) fun _ _ _ _ => List.cons.inj

theorem mem_product_box (g : Nat × Nat → List Nat) (bounds : List (Nat × Nat)) (k : JD) :
    k ∈ product (bounds.map g) ↔
      (k.length = bounds.length ∧ ∀ i (h : i < k.length), k[i] ∈ g (bounds.getD i (0, 0))) := by
  rw [mem_product, List.forall₂_map_right_iff, List.forall₂_iff_get]
  refine and_congr_right fun hl => ⟨fun H i h => ?_, fun H i h₁ h₂ => ?_⟩
  · simpa [List.getD_eq_getElem?_getD, hl ▸ h] using H i h (hl ▸ h)
  · simpa [List.getD_eq_getElem?_getD, h₂] using H i h₁

/-- `evaluate_prob_of_joint_degree` is the product of the marginals (a missing callable, which
    would be an `IndexError` in Python, is modelled by the zero function) -/
theorem marginalWeight_eq_prod (fs : List (Nat → Rat)) (k : JD) :
    marginalWeight fs k = (k.zipIdx.map fun (d, i) => (fs.getD i (fun _ => 0)) d).prod :=
  List.prod_eq_foldl.symm

theorem marginalWeight_nonneg (fs : List (Nat → Rat)) (h : ∀ f ∈ fs, ∀ x, 0 ≤ f x) (k : JD) :
    0 ≤ marginalWeight fs k := by
  rw [marginalWeight_eq_prod]
  refine List.prod_nonneg fun x hx => ?_
  obtain ⟨⟨d, i⟩, _, rfl⟩ := List.mem_map.1 hx
  show 0 ≤ (fs.getD i fun _ => 0) d
  rw [List.getD_eq_getElem?_getD]
  cases hi : fs[i]? with
  | none => exact le_rfl
  | some f => exact h f (List.mem_of_getElem? hi) d

/-- the `i`-th `random.choices` call samples dimension `i` over its INCLUSIVE range
    `range(kmin, kmax + 1)` with the weights of its own marginal `fs[i]`, `n` times -/
theorem sampled_calls_aligned (fs : List (Nat → Rat)) (bounds : List (Nat × Nat)) (n i : Nat)
    (h : i < bounds.length) :
    (sampledCalls fs bounds n)[i]'(by rw [sampledCalls_length]; exact h) =
      (rangeAB bounds[i].1 (bounds[i].2 + 1),
       (rangeAB bounds[i].1 (bounds[i].2 + 1)).map (fs.getD i (fun _ => 0)),
       n) := by
  simp [sampledCalls, List.getElem_zipIdx]

end Gcmpy.Loaders
