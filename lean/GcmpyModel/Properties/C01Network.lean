import GcmpyModel.Properties.C01
import GcmpyModel.Properties.C02
import GcmpyModel.Properties.C04
import GcmpyModel.Properties.C05
import GcmpyModel.Properties.C08
import GcmpyModel.Lemmas.Clique
/-!
# Compositions: the network variant of the generator (C01 ∘ C02 ∘ C04), C05 ∘ C01, C08 ∘ C01

Nothing new is modelled here: `genNetwork` is the composition of the two models that are already
there (`genFast`, `Network.toNetwork`), exactly as `GCMAlgorithmNetwork.random_clustered_graph` composes
the fast generator with `EdgeListToNetwork.convert`.  Every theorem below is obtained by chaining
theorems that were proved for the separate properties; `draws` (the outcomes of the shuffles) is
universally quantified everywhere.
-/
namespace Gcmpy.Generate
open Gcmpy

/-- the fast generator's `LightWeightEdgeList` as handed to `EdgeListToNetwork.convert` -/
def toEL (el : EdgeList String) : Network.EL :=
  { edges := el.edges, topologies := el.topologies, motifId := el.motifId, jointDegrees := el.jointDegrees }

/- The hypotheses of C04 for a converted edge list, stated for a variable `el`: with `genFast …` in its place the
   elaborator unfolds the generator when it compares the two sides. -/
theorem inRange_toEL (el : EdgeList String)
    (h : ∀ e ∈ el.edges, e.1 < el.jointDegrees.length ∧ e.2 < el.jointDegrees.length) :
    Network.InRange (toEL el) := h

theorem parallel_toEL (el : EdgeList String)
    (h : el.edges.length = el.topologies.length ∧ el.edges.length = el.motifId.length) :
    Network.Parallel (toEL el) := ⟨h.1.symm, h.2.symm⟩

/-- `GCMAlgorithmNetwork.random_clustered_graph` = fast generator, then `EdgeListToNetwork.convert` -/
def genNetwork (sizes : List Nat) (build : Nat → List Nat → List (Nat × Nat)) (names : Nat → String)
    (jds : List (List Nat)) (draws : List (List Nat)) : Network.Net :=
  let el := genFast sizes build names jds draws
  Network.toNetwork { edges := el.edges, topologies := el.topologies, motifId := el.motifId, jointDegrees := el.jointDegrees }

/-- a build callback only connects vertices it was given -/
def CallbackInRange (build : Nat → List Nat → List (Nat × Nat)) : Prop :=
  ∀ k vs, ∀ e ∈ build k vs, e.1 ∈ vs ∧ e.2 ∈ vs

section network
variable (sizes : List Nat) (build : Nat → List Nat → List (Nat × Nat)) (names : Nat → String)
  (jds : List (List Nat)) (draws : List (List Nat))

theorem genNetwork_eq :
    genNetwork sizes build names jds draws = Network.toNetwork (toEL (genFast sizes build names jds draws)) := rfl

theorem mem_genFast_edges (e : Nat × Nat) :
    e ∈ (genFast sizes build names jds draws).edges ↔
      ∃ m ∈ motifsFast sizes build (shuffled jds draws), e ∈ build m.top m.verts := by
  rw [fast_edges_are_callback_results, List.mem_flatMap]

/-- C01 ⇒ hypothesis `InRange` of C04: every end point of a generated edge row is a vertex `< N` -/
theorem genFast_inRange (hb : CallbackInRange build) :
    Network.InRange (toEL (genFast sizes build names jds draws)) := by
  refine inRange_toEL _ fun e he => ?_
  obtain ⟨m, hm, hem⟩ := (mem_genFast_edges sizes build names jds draws e).1 he
  obtain ⟨h1, h2⟩ := hb m.top m.verts e hem
  rw [fast_jds_carried]
  exact ⟨fast_vertices_in_range sizes build jds draws m hm _ h1,
    fast_vertices_in_range sizes build jds draws m hm _ h2⟩

/-- C02 ⇒ hypothesis `Parallel` of C04 -/
theorem genFast_parallel : Network.Parallel (toEL (genFast sizes build names jds draws)) :=
  parallel_toEL _ (fast_columns_parallel names (motifsFast sizes build (shuffled jds draws)) jds)

/-- the network variant has exactly one node per entry of the joint degree sequence, `0 .. N-1` in that
    order, zero-degree vertices included — for every outcome of the shuffles -/
theorem network_nodes_exact (hb : CallbackInRange build) :
    (genNetwork sizes build names jds draws).nodes = List.range jds.length :=
  Network.nodes_exact _ (genFast_inRange sizes build names jds draws hb)

/-- … and every node carries its joint degree -/
theorem network_node_annotated (hb : CallbackInRange build) (v : Nat) (hv : v < jds.length) :
    Dict.get (genNetwork sizes build names jds draws).jd v = some jds[v] :=
  Network.node_annotated _ (genFast_inRange sizes build names jds draws hb) v hv

/-- an (undirected) edge exists in the network exactly when some motif's build call produced that pair -/
theorem network_edge_iff_callback (k : Network.Key) :
    k ∈ (genNetwork sizes build names jds draws).edges.map (·.1) ↔
      ∃ m ∈ motifsFast sizes build (shuffled jds draws), ∃ e ∈ build m.top m.verts, Network.norm e = k := by
  refine (Network.edge_iff_pair_occurs _ k).trans ?_
  simp only [mem_genFast_edges]
  exact ⟨fun ⟨e, ⟨m, hm, he⟩, hk⟩ => ⟨m, hm, e, he, hk⟩,
    fun ⟨m, hm, e, he, hk⟩ => ⟨e, ⟨m, hm, he⟩, hk⟩⟩

/-- no undirected edge is stored twice -/
theorem network_edges_simple_keys : ((genNetwork sizes build names jds draws).edges.map (·.1)).Nodup :=
  Network.edge_keys_nodup _

/-- every edge joins two of the `N` vertices -/
theorem network_edge_endpoints (hb : CallbackInRange build) (k : Network.Key)
    (hk : k ∈ (genNetwork sizes build names jds draws).edges.map (·.1)) :
    k.1 ≤ k.2 ∧ k.2 < jds.length := by
  rw [genNetwork_eq, Network.edge_iff_pair_occurs] at hk
  obtain ⟨e, he, rfl⟩ := hk
  have := Network.norm_lt (genFast_inRange sizes build names jds draws hb e he)
  exact ⟨Network.norm_fst_le e, this.2⟩

/-- converting the generated network back succeeds and returns the joint degree sequence
    (and one row per undirected edge) -/
theorem network_roundtrip (hb : CallbackInRange build) :
    ∃ el', Network.toEdgeList (genNetwork sizes build names jds draws) = some el' ∧ el'.jointDegrees = jds := by
  obtain ⟨el', h1, h2, _⟩ := Network.roundtrip_jds _ (genFast_inRange sizes build names jds draws hb)
    (genFast_parallel sizes build names jds draws)
  exact ⟨el', h1, h2⟩

/-- … and converting that edge list forward again gives the same network -/
theorem network_roundtrip_network (hb : CallbackInRange build) :
    ∃ el', Network.toEdgeList (genNetwork sizes build names jds draws) = some el' ∧
      Network.toNetwork el' = genNetwork sizes build names jds draws :=
  Network.roundtrip_network _ (genFast_inRange sizes build names jds draws hb)
    (genFast_parallel sizes build names jds draws)

end network

/-! ### the shipped callbacks only connect vertices they were given -/

theorem cliqueMotif_inRange : CallbackInRange (fun _ vs => cliqueMotif vs) := fun _ _ e he =>
  have h := (MPCC.mem_pairs_iff (a := e.1) (b := e.2)).1 he
  ⟨h.subset List.mem_cons_self, h.subset (List.mem_cons_of_mem _ List.mem_cons_self)⟩

theorem mem_cycleMotif (vs : List Nat) (es : List (Nat × Nat)) (h : cycleMotif vs = some es)
    (e : Nat × Nat) (he : e ∈ es) : e.1 ∈ vs ∧ e.2 ∈ vs := by
  unfold cycleMotif at h
  split at h
  · next a z hh hl =>
    cases h
    rcases List.mem_append.1 he with he | he
    · exact ⟨(List.of_mem_zip he).1, List.mem_of_mem_tail (List.of_mem_zip he).2⟩
    · cases List.mem_singleton.1 he; exact ⟨List.mem_of_head? hh, List.mem_of_getLast? hl⟩
  · cases h

theorem cycleMotif_inRange : CallbackInRange (fun _ vs => (cycleMotif vs).getD []) := by
  intro _ vs e he
  cases h : cycleMotif vs with
  | none => simp [h] at he
  | some es =>
    simp only [h, Option.getD_some] at he
    exact mem_cycleMotif vs es h e he

theorem diamondMotif_inRange : CallbackInRange (fun _ vs => (diamondMotif vs).getD []) := by
  intro _ vs e he
  simp only [diamondMotif] at he
  split at he
  · next n0 n1 n2 n3 =>
    -- on four given vertices the diamond is a closed term: its six edges can be listed
    have : e ∈ [(n0, n1), (n1, n2), (n2, n3), (n0, n3), (n0, n2), (n1, n3)] := he
    simp only [List.mem_cons, List.not_mem_nil, or_false] at this
    rcases this with rfl | rfl | rfl | rfl | rfl | rfl <;> simp
  · cases he

/-! ### C05 ∘ C01: the sequence returned by `handshaking_lemma` meets C01's precondition -/

section handshake
variable (sizes : List Nat) (T : Nat) (jds : List (List Nat)) (picks : List Nat)

theorem handshake_ready (hR : Gcmpy.Handshake.Rect jds T) (hN : jds ≠ [])
    (hp : ∀ p ∈ picks, p < jds.length) (hs : ∀ i < T, 0 < sizes.getD i 0) :
    ncols (Gcmpy.Handshake.handshake sizes jds picks) = T ∧
    ∀ k < T, Handshake sizes (Gcmpy.Handshake.handshake sizes jds picks) k :=
  ⟨ncols_of_rect _ T (Gcmpy.Handshake.rect_preserved sizes T jds picks hR hN hp) fun h =>
      hN (List.length_eq_zero_iff.1 (by rw [← Gcmpy.Handshake.length_preserved sizes T jds picks hR hN hp, h]; rfl)),
    fun k hk => ⟨hs k hk, Gcmpy.Handshake.divisible_after sizes T jds picks hR hN hp hs k hk⟩⟩

/-- after the repair the generator builds, for every outcome of the shuffles, `(n + (s − n mod s) mod s) / s`,
    i.e. `⌈n / s⌉`, motifs of topology `k`, `n` the ORIGINAL column sum and `s` the size -/
theorem handshake_then_motif_count_original {β : Type} (build : Nat → List Nat → β) (draws : List (List Nat))
    (hR : Gcmpy.Handshake.Rect jds T) (hN : jds ≠ [])
    (hp : ∀ p ∈ picks, p < jds.length) (hs : ∀ i < T, 0 < sizes.getD i 0) (k : Nat) (hk : k < T) :
    ((motifsFast sizes build (shuffled (Gcmpy.Handshake.handshake sizes jds picks) draws)).filter
        (fun m => m.top = k)).length
      = (colSum jds k + (sizes.getD k 0 - colSum jds k % sizes.getD k 0) % sizes.getD k 0) / sizes.getD k 0 := by
  have h := handshake_ready sizes T jds picks hR hN hp hs
  rw [fast_motif_count sizes build _ draws k (h.1.symm ▸ hk) (h.2 k hk),
    Gcmpy.Handshake.added_exact sizes T jds picks hR hN hp hs k hk]

/-- and every repaired group has exactly `size_k` stubs (no short last group) -/
theorem handshake_then_group_size {β : Type} (build : Nat → List Nat → β) (draws : List (List Nat))
    (hR : Gcmpy.Handshake.Rect jds T) (hN : jds ≠ [])
    (hp : ∀ p ∈ picks, p < jds.length) (hs : ∀ i < T, 0 < sizes.getD i 0) (m : Motif β)
    (hm : m ∈ motifsFast sizes build (shuffled (Gcmpy.Handshake.handshake sizes jds picks) draws)) :
    m.verts.length = sizes.getD m.top 0 := by
  have h := handshake_ready sizes T jds picks hR hN hp hs
  exact fast_group_size sizes build _ draws m hm (h.2 _ (h.1 ▸ motifsFast_top_lt hm))

end handshake

/-! ### C08 ∘ C01: generating from a cover's own counts reproduces its clique-size profile -/

section cover
open Gcmpy.Cover
variable {cover : List (List Nat)} {z n : Nat} {jds : List (List Nat)}

/-- every reported motif size is positive (cliques of a contiguous cover are non-empty) -/
theorem cover_sizes_pos (h : Contiguous cover z n) {j : Nat} (hj : j < (motifSizes cover).length) :
    0 < (motifSizes cover).getD j 0 := by
  have hmem : (motifSizes cover).getD j 0 ∈ motifSizes cover := by
    simp [List.getD_eq_getElem?_getD, List.getElem?_eq_getElem hj]
  obtain ⟨c, hc, hlen⟩ := ((motif_sizes_spec cover).2 _).1 hmem
  rw [← hlen]
  exact (h.clique_ok c hc).1

theorem cover_gives_handshake (h : Contiguous cover z n) (hj : coverJds cover = some jds) :
    ∀ j < (motifSizes cover).length, Handshake (motifSizes cover) jds j :=
  fun _ hjl => ⟨cover_sizes_pos h hjl, cover_handshake_dvd h hj hjl⟩

theorem cover_shape (h : Contiguous cover z n) (hj : coverJds cover = some jds) :
    jds.length = n ∧ ncols jds = (motifSizes cover).length := by
  obtain ⟨jds', e, hl, hr⟩ := cover_columns h
  rw [hj] at e
  cases e
  exact ⟨hl, ncols_of_rect _ _ hr fun h0 => Nat.ne_of_gt h.2.1 (by rw [← hl, h0]; rfl)⟩

/-- THE PROFILE THEOREM: for every outcome of the shuffles and every build callback, the generator run on the
    cover's own counts with the reported sizes builds exactly as many motifs of the `j`-th size as the cover has
    cliques of that size (beyond the last column both sides are 0) -/
theorem cover_profile_reproduced_any {β : Type} (build : Nat → List Nat → β)
    (h : Contiguous cover z n) (hj : coverJds cover = some jds) (draws : List (List Nat)) (j : Nat) :
    ((motifsFast (motifSizes cover) build (shuffled jds draws)).filter (fun m => m.top = j)).length
      = (cover.filter (fun c => c.length = (motifSizes cover).getD j 0)).length := by
  rcases Nat.lt_or_ge j (motifSizes cover).length with hjl | hjl
  · rw [fast_motif_count (motifSizes cover) build jds draws j ((cover_shape h hj).2 ▸ hjl)
      (cover_gives_handshake h hj j hjl), colSum, cover_handshake h hj hjl]
    exact Nat.mul_div_cancel_left _ (cover_sizes_pos h hjl)
  · -- no clique has length 0, the value of `getD` beyond the last reported size
    rw [fast_no_motif_of_ge j ((cover_shape h hj).2 ▸ hjl), List.filter_eq_nil_iff.2 fun c hc e => by
      have := (h.clique_ok c hc).1
      rw [List.getD_eq_getElem?_getD, List.getElem?_eq_none hjl] at e
      exact Nat.ne_of_gt this (of_decide_eq_true e)]
    rfl

/-- the profile theorem with the shipped clique motifs -/
theorem cover_profile_reproduced (h : Contiguous cover z n) (hj : coverJds cover = some jds)
    (draws : List (List Nat)) (j : Nat) :
    ((motifsFast (motifSizes cover) (fun _ vs => cliqueMotif vs) (shuffled jds draws)).filter
        (fun m => m.top = j)).length
      = (cover.filter (fun c => c.length = (motifSizes cover).getD j 0)).length :=
  cover_profile_reproduced_any _ h hj draws j

/-- each generated clique has exactly the reported size and is built by `cliqueMotif` … -/
theorem cover_profile_group_size (h : Contiguous cover z n) (hj : coverJds cover = some jds)
    (draws : List (List Nat)) (m : Motif (List (Nat × Nat)))
    (hm : m ∈ motifsFast (motifSizes cover) (fun _ vs => cliqueMotif vs) (shuffled jds draws)) :
    m.verts.length = (motifSizes cover).getD m.top 0 ∧ m.built = cliqueMotif m.verts := by
  have hk : m.top < (motifSizes cover).length := (cover_shape h hj).2 ▸ motifsFast_top_lt hm
  exact ⟨fast_group_size _ _ jds draws m hm (cover_gives_handshake h hj _ hk),
    fast_build_applied _ _ jds draws m hm⟩

/-- … and in the generated graph vertex `v` sits in exactly as many size-`s_j` cliques (slots) as it
    does in the cover (C08 `cover_counts` ∘ C01 `fast_slots`; 0-based covers: vertex `v` is row `v`) -/
theorem cover_membership_reproduced (h : Contiguous cover z n) (hj : coverJds cover = some jds)
    (draws : List (List Nat)) (j : Nat) (hjl : j < (motifSizes cover).length) (v : Nat) (hv1 : z ≤ v)
    (hv2 : v < z + n) :
    (((motifsFast (motifSizes cover) (fun _ vs => cliqueMotif vs) (shuffled jds draws)).filter
        (fun m => m.top = j)).flatMap (·.verts)).count (v - z)
      = cliqueCount cover ((motifSizes cover).getD j 0) v := by
  rw [fast_slots _ _ jds draws j ((cover_shape h hj).2 ▸ hjl) (cover_sizes_pos h hjl),
    if_pos (by rw [(cover_shape h hj).1]; omega)]
  exact cover_counts h hj hv1 hv2 hjl

/-- the network variant on a cover's counts: one node per cover vertex, all annotated -/
theorem cover_network_nodes (h : Contiguous cover z n) (hj : coverJds cover = some jds)
    (names : Nat → String) (draws : List (List Nat)) :
    (genNetwork (motifSizes cover) (fun _ vs => cliqueMotif vs) names jds draws).nodes = List.range n := by
  rw [network_nodes_exact _ _ _ _ _ cliqueMotif_inRange, (cover_shape h hj).1]

end cover

/-- a small network-variant run written out: sizes (2, 3), vertex 3 has degree zero and is a node;
    the two 2-cliques `(2,1)`, `(0,2)` are stored under normalised keys; the 3-clique drew vertex 1 three
    times (`jds[1][1] = 3`), so its three pairs collapse into the single self-loop key `(1,1)` -/
example : genNetwork [2, 3] (fun _ vs => cliqueMotif vs) (fun k => if k = 0 then "2-clique" else "3-clique")
      [[1, 0], [1, 3], [2, 0], [0, 0]] [[3, 0, 1], [1, 0]] =
    { nodes := [0, 1, 2, 3],
      jd := [(0, [1, 0]), (1, [1, 3]), (2, [2, 0]), (3, [0, 0])],
      edges := [((1, 2), (some "2-clique", some 0)), ((0, 2), (some "2-clique", some 1)),
                ((1, 1), (some "3-clique", some 2))] } := by
  decide +kernel

/-- a proper run (no repeated stub inside a motif): a 2-clique and a triangle on 5 vertices, one isolated -/
example : genNetwork [2, 3] (fun _ vs => cliqueMotif vs) (fun k => if k = 0 then "2-clique" else "3-clique")
      [[1, 1], [0, 1], [1, 0], [0, 1], [0, 0]] [[1], [2, 0]] =
    { nodes := [0, 1, 2, 3, 4],
      jd := [(0, [1, 1]), (1, [0, 1]), (2, [1, 0]), (3, [0, 1]), (4, [0, 0])],
      edges := [((0, 2), (some "2-clique", some 0)), ((0, 1), (some "3-clique", some 1)),
                ((1, 3), (some "3-clique", some 1)), ((0, 3), (some "3-clique", some 1))] } := by
  decide +kernel

/-- the profile theorem on the C08 example cover (sizes {2, 5}, 1-based ids): one 5-clique, two 2-cliques -/
example : (Gcmpy.Cover.motifSizes [[1, 2, 3, 4, 5], [5, 6], [1, 6]] = [2, 5]) ∧
    ((motifsFast [2, 5] (fun _ vs => cliqueMotif vs)
      (shuffled [[1, 1], [0, 1], [0, 1], [0, 1], [1, 1], [2, 0]] [[2, 1, 0], [3, 0, 1, 0]])).map
        (fun m => (m.top, m.verts.length))) = [(0, 2), (0, 2), (1, 5)] := by
  decide +kernel

/-- the profile theorem instantiated (its hypotheses are satisfiable): for EVERY draws and every `j` -/
example (draws : List (List Nat)) (j : Nat) :
    ((motifsFast (Gcmpy.Cover.motifSizes [[1, 2, 3, 4, 5], [5, 6], [1, 6]]) (fun _ vs => cliqueMotif vs)
        (shuffled [[1, 1], [0, 1], [0, 1], [0, 1], [1, 1], [2, 0]] draws)).filter (fun m => m.top = j)).length
      = ([[1, 2, 3, 4, 5], [5, 6], [1, 6]].filter
          (fun c => c.length = (Gcmpy.Cover.motifSizes [[1, 2, 3, 4, 5], [5, 6], [1, 6]]).getD j 0)).length := by
  refine cover_profile_reproduced (z := 1) (n := 6) ⟨Or.inr rfl, by omega, by decide, by decide, ?_⟩
    (by decide +kernel) draws j
  intro v
  simp only [List.mem_cons, List.not_mem_nil, or_false, exists_eq_or_imp, exists_eq_left]
  omega

/-- the hypotheses of `handshake_ready` are satisfiable, and the conclusion is not trivial:
    column sums (3, 4) are not divisible by sizes (2, 3) before the repair -/
example : Gcmpy.Handshake.Rect [[1, 2], [0, 2], [2, 0]] 2 ∧ ¬ Handshake [2, 3] [[1, 2], [0, 2], [2, 0]] 0 ∧
    ¬ Handshake [2, 3] [[1, 2], [0, 2], [2, 0]] 1 ∧
    ((motifsFast [2, 3] (fun _ vs => cliqueMotif vs)
      (shuffled (Gcmpy.Handshake.handshake [2, 3] [[1, 2], [0, 2], [2, 0]] [2, 0, 1]) [[1, 0, 0], [3, 2, 1, 0, 0]])).map
        (fun m => (m.top, m.verts.length))) = [(0, 2), (0, 2), (1, 3), (1, 3)] := by
  refine ⟨by unfold Gcmpy.Handshake.Rect; decide, ?_, ?_, by decide +kernel⟩
  · rintro ⟨_, h⟩
    have : colSum [[1, 2], [0, 2], [2, 0]] 0 = 3 := by decide
    rw [this] at h
    revert h; decide
  · rintro ⟨_, h⟩
    have : colSum [[1, 2], [0, 2], [2, 0]] 1 = 4 := by decide
    rw [this] at h
    revert h; decide

end Gcmpy.Generate
