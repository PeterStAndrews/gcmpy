import GcmpyModel.Lemmas.Reach
import GcmpyModel.Model.Percolate
/-
C18 — `gcmpy/tools/bond_percolate.py` (model: `Model/Percolate.lean`).

Every edge is retained iff its own uniform draw is `≤ φ` (one draw per edge, in edge order); the result is
(size of the largest component of the retained graph) / N.  Reachability semantics of `lccSize`: Lemmas/Reach.
Numbered docstrings mark the theorems that stand for the property.
-/
namespace Gcmpy.Percolate
open Gcmpy.Graph

/-- 1. the fate of edge `t` depends on its own draw only: it survives the filter iff `draws[t] ≤ φ` -/
theorem kept_iff (es : List Edge) (φ : Rat) (draws : List Rat) (hl : draws.length = es.length)
    (t : Nat) (ht : t < es.length) :
    (es[t], draws[t]'(hl ▸ ht)) ∈ (es.zip draws).filter (fun p => ¬ (p.2 > φ)) ↔ draws[t]'(hl ▸ ht) ≤ φ := by
  have hmem : (es[t], draws[t]'(hl ▸ ht)) ∈ es.zip draws := by
    have hlt : t < (es.zip draws).length := by rw [List.length_zip]; omega
    have := List.getElem_mem hlt
    rwa [List.getElem_zip] at this
  simp only [List.mem_filter, hmem, true_and, gt_iff_lt, Rat.not_lt, decide_eq_true_eq]

/-- 1'. list form: the retained edges are those whose draw is `≤ φ`, in the original order -/
theorem kept_list_form (es : List Edge) (φ : Rat) (draws : List Rat) :
    kept es φ draws = ((es.zip draws).filter (fun p => decide (p.2 ≤ φ))).map (·.1) := by
  unfold kept
  congr 1
  apply List.filter_congr
  rintro ⟨e, d⟩ _
  simp only [gt_iff_lt, Rat.not_lt]

theorem map_fst_zip_sublist {α β : Type} (l₁ : List α) (l₂ : List β) :
    ((l₁.zip l₂).map (·.1)).Sublist l₁ := by
  rw [List.zip_eq_zip_take_min, List.map_fst_zip (by simp)]
  exact List.take_sublist _ _

theorem kept_sublist (es : List Edge) (φ : Rat) (draws : List Rat) : (kept es φ draws).Sublist es := by
  rw [kept_list_form]
  exact (List.filter_sublist.map _).trans (map_fst_zip_sublist _ _)

theorem kept_all {es : List Edge} {φ : Rat} {draws : List Rat} (hl : draws.length = es.length)
    (h : ∀ d ∈ draws, d ≤ φ) : kept es φ draws = es := by
  rw [kept_list_form, List.filter_eq_self.2, List.map_fst_zip (by omega)]
  rintro ⟨e, d⟩ hp
  simpa using h d (List.of_mem_zip hp).2

theorem kept_none {es : List Edge} {φ : Rat} {draws : List Rat}
    (h : ∀ d ∈ draws, φ < d) : kept es φ draws = [] := by
  rw [kept_list_form, List.filter_eq_nil_iff.2, List.map_nil]
  rintro ⟨e, d⟩ hp
  simpa [Rat.not_le] using h d (List.of_mem_zip hp).2

theorem percolate_of_ne_nil {nodes : List Nat} (hne : nodes ≠ []) (es : List Edge) (φ : Rat)
    (draws : List Rat) :
    percolate es nodes φ draws = some ((lccSize (kept es φ draws) nodes : Rat) / nodes.length) := by
  rw [percolate, if_neg (by simpa using hne)]

/-- 2. `φ = 1`: every draw of `random.random()` is `< 1`, nothing is removed, the result is the
relative size of the largest component of the input graph -/
theorem phi_one_exact {es : List Edge} {nodes : List Nat} {draws : List Rat}
    (hl : draws.length = es.length) (hd : ∀ d ∈ draws, d < 1) (hne : nodes ≠ []) :
    percolate es nodes 1 draws = some ((lccSize es nodes : Rat) / nodes.length) := by
  rw [percolate_of_ne_nil hne, kept_all hl fun d h => Rat.le_of_lt (hd d h)]

/-- 3. `φ = 0`: every edge is removed and the result is `1/N` — PROVIDED no draw is exactly `0.0`
(`random.random()` ranges over `[0,1)`; the draw `0.0` is not `> 0` and would keep its edge, hence the
hypothesis `0 < d`) -/
theorem phi_zero {es : List Edge} {nodes : List Nat} {draws : List Rat}
    (_hl : draws.length = es.length) (hd : ∀ d ∈ draws, 0 < d) (hne : nodes ≠ []) :
    percolate es nodes 0 draws = some (1 / (nodes.length : Rat)) := by
  rw [percolate_of_ne_nil hne, kept_none hd, lccSize_no_edges hne]
  rfl

/-- 4. the result is `k/N` for an integer `1 ≤ k ≤ N` -/
theorem multiple_of_inv_N {es : List Edge} {nodes : List Nat} {φ : Rat} {draws : List Rat} {s : Rat}
    (h : WFGraph es nodes) (hne : nodes ≠ []) (hs : percolate es nodes φ draws = some s) :
    ∃ k : Nat, 1 ≤ k ∧ k ≤ nodes.length ∧ s = (k : Rat) / nodes.length := by
  obtain ⟨h1, h2⟩ := lccSize_pos_le (h.mono (kept_sublist es φ draws).subset) hne
  exact ⟨_, h1, h2, (Option.some.inj ((percolate_of_ne_nil hne es φ draws).symm.trans hs)).symm⟩

/-- 5. the empty graph raises (`Gcc[0]` on an empty list) -/
theorem empty_graph_raises (es : List Edge) (φ : Rat) (draws : List Rat) :
    percolate es [] φ draws = none := rfl

/-- 5'. and that is the only failure -/
theorem percolate_isSome {es : List Edge} {nodes : List Nat} (φ : Rat) (draws : List Rat) (hne : nodes ≠ []) :
    (percolate es nodes φ draws).isSome = true := by
  rw [percolate_of_ne_nil hne]; rfl

theorem adj_star {c : Nat} {K : List Nat} {a b : Nat} :
    Adj (K.map fun l => (c, l)) a b ↔ (a = c ∧ b ∈ K) ∨ (b = c ∧ a ∈ K) := by
  unfold Adj
  simp only [List.mem_map, Prod.mk.injEq]
  constructor
  · rintro (⟨l, hl, rfl, rfl⟩ | ⟨l, hl, rfl, rfl⟩)
    · exact Or.inl ⟨rfl, hl⟩
    · exact Or.inr ⟨rfl, hl⟩
  · rintro (⟨rfl, hb⟩ | ⟨rfl, ha⟩)
    · exact Or.inl ⟨b, hb, rfl, rfl⟩
    · exact Or.inr ⟨a, ha, rfl, rfl⟩

theorem reach_star_centre {c : Nat} {K : List Nat} {v : Nat} :
    Reach (K.map fun l => (c, l)) c v ↔ v = c ∨ v ∈ K := by
  constructor
  · intro h
    induction h with
    | refl => exact Or.inl rfl
    | tail _ hbc ih =>
      rcases adj_star.1 hbc with ⟨_, hv⟩ | ⟨hv, _⟩
      · exact Or.inr hv
      · exact Or.inl hv
  · rintro (rfl | hv)
    · exact Reach.refl _ _
    · exact Reach.single (adj_star.2 (Or.inl ⟨rfl, hv⟩))

/-- a star with centre `c`, leaves `ls`, of which only the edges to the leaves `K` are present:
the largest component is the centre together with `K`; all other vertices are isolated -/
theorem lccSize_star {c : Nat} {ls K : List Nat} (hc : c ∉ ls) (hls : ls.Nodup) (hK : K.Nodup)
    (hsub : K ⊆ ls) : lccSize (K.map fun l => (c, l)) (c :: ls) = 1 + K.length := by
  have hwf : WFGraph (K.map fun l => (c, l)) (c :: ls) := by
    refine ⟨List.nodup_cons.2 ⟨hc, hls⟩, ?_⟩
    intro e he
    obtain ⟨l, hl, rfl⟩ := List.mem_map.1 he
    exact ⟨List.mem_cons_self, List.mem_cons_of_mem _ (hsub hl)⟩
  have hcK : (c :: K).Nodup := List.nodup_cons.2 ⟨fun h => hc (hsub h), hK⟩
  have hcn : c ∈ c :: ls := List.mem_cons_self
  have hcen : (comp (K.map fun l => (c, l)) (c :: ls).length c).length = 1 + K.length := by
    rw [comp_length_eq hwf hcn hcK (fun v => by rw [reach_star_centre, List.mem_cons])]
    simp only [List.length_cons]; omega
  apply lccSize_eq ⟨c, hcn, hcen⟩
  intro v hv
  by_cases hr : Reach (K.map fun l => (c, l)) c v
  · rw [← comp_length_eq_of_reach hwf hcn hr, hcen]
    exact Nat.le_refl _
  · rw [comp_of_isolated fun w hw => hr ?_]
    · simp only [List.length_singleton]; omega
    · rcases adj_star.1 hw with ⟨rfl, _⟩ | ⟨_, hvK⟩
      · exact Reach.refl _ _
      · exact reach_star_centre.2 (Or.inr hvK)

/-- the leaves of a star whose edge is retained -/
def keptLeaves (ls : List Nat) (φ : Rat) (draws : List Rat) : List Nat :=
  ((ls.zip draws).filter (fun p => decide (p.2 ≤ φ))).map (·.1)

theorem kept_star (c : Nat) (ls : List Nat) (φ : Rat) (draws : List Rat) :
    kept (ls.map fun l => (c, l)) φ draws = (keptLeaves ls φ draws).map fun l => (c, l) := by
  rw [kept_list_form, keptLeaves, List.zip_map_left, List.filter_map, List.map_map, List.map_map]
  rfl

theorem keptLeaves_sublist (ls : List Nat) (φ : Rat) (draws : List Rat) :
    (keptLeaves ls φ draws).Sublist ls :=
  (List.filter_sublist.map _).trans (map_fst_zip_sublist _ _)

theorem keptLeaves_length {ls : List Nat} {φ : Rat} {draws : List Rat} (hl : draws.length = ls.length) :
    (keptLeaves ls φ draws).length = (draws.filter (fun d => decide (d ≤ φ))).length := by
  have h : draws = (ls.zip draws).map (·.2) := (List.map_snd_zip (by omega)).symm
  conv => rhs; rw [h, List.filter_map, List.length_map]
  rw [keptLeaves, List.length_map]
  rfl

/-- 6. star with centre `c` and leaves `ls`: `N·S − 1` is the number of retained edges, i.e. the number of
draws `≤ φ` (Binomial(M, φ) under i.i.d. uniform draws) -/
theorem star_counts_kept {c : Nat} {ls : List Nat} {φ : Rat} {draws : List Rat}
    (hc : c ∉ ls) (hls : ls.Nodup) (hl : draws.length = (ls.map fun l => (c, l)).length) :
    lccSize (kept (ls.map fun l => (c, l)) φ draws) (c :: ls)
      = 1 + (draws.filter (fun d => decide (d ≤ φ))).length := by
  rw [List.length_map] at hl
  rw [kept_star, lccSize_star hc hls ((keptLeaves_sublist ls φ draws).nodup hls)
    (keptLeaves_sublist ls φ draws).subset, keptLeaves_length hl]

/-- 6'. the same through `percolate` -/
theorem star_percolate {c : Nat} {ls : List Nat} {φ : Rat} {draws : List Rat}
    (hc : c ∉ ls) (hls : ls.Nodup) (hl : draws.length = ls.length) :
    percolate (ls.map fun l => (c, l)) (c :: ls) φ draws
      = some (((1 + (draws.filter (fun d => decide (d ≤ φ))).length : Nat) : Rat) / ((ls.length + 1 : Nat) : Rat)) := by
  rw [percolate_of_ne_nil (List.cons_ne_nil _ _), star_counts_kept hc hls (by rw [List.length_map]; exact hl)]
  rfl

/-- 5 vertices, 3 edges, `φ = 6/10`: only `(0,1)` survives -/
example : percolate [(0,1), (1,2), (3,4)] [0,1,2,3,4] (6/10) [1/2, 9/10, 7/10] = some (2/5) := by
  decide +kernel

example : kept [(0,1), (1,2), (3,4)] (6/10) [1/2, 9/10, 7/10] = [(0,1)] := by decide +kernel

/-- same graph, all edges survive: components {0,1,2} and {3,4} -/
example : percolate [(0,1), (1,2), (3,4)] [0,1,2,3,4] (6/10) [1/2, 1/10, 3/10] = some (3/5) := by
  decide +kernel

example : WFGraph [(0,1), (1,2), (3,4)] [0,1,2,3,4] := by
  unfold WFGraph; decide +kernel

/-- the draw `0` keeps its edge at `φ = 0` -/
example : percolate [(0,1)] [0,1] 0 [0] = some 1 := by decide +kernel

/-- star with 4 leaves, 2 draws `≤ 1/2` -/
example : percolate [(0,1), (0,2), (0,3), (0,4)] [0,1,2,3,4] (1/2) [1/10, 9/10, 3/10, 8/10] = some (3/5) := by
  decide +kernel

example : lccSize (kept ([1,2,3,4].map fun l => (0, l)) (1/2) [1/10, 9/10, 3/10, 8/10]) (0 :: [1,2,3,4])
    = 1 + ([1/10, 9/10, 3/10, (8/10 : Rat)].filter (fun d => decide (d ≤ 1/2))).length := by
  decide +kernel

end Gcmpy.Percolate
