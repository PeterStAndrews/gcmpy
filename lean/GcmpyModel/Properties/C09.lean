import GcmpyModel.Lemmas.EECC
import GcmpyModel.Lemmas.Sublists
/-!
# C09 — EECC returns an edge-disjoint edge clique cover within the size bound

Model: `GcmpyModel/Model/EECC.lean` (`maximalCliques`, `lmc`, `scoreZero`, `removeAll`, `rescore`, `init`,
`step`, `run`, `candidates`) for `gcmpy/covers/eecc.py` (class `EECC`, repaired `limited_maximal_cliques`) and
`remove_edge` / `has_edges` of `gcmpy/network/network.py`.  The random tie-break of the heuristic is modelled
relationally: `step` accepts ANY member of the current non-zero-score list `C`, so every theorem below holds
for every sequence of picks (in particular for the code's `choice` among `candidates`, `candidates_subset`).

Claim: for a simple graph given by its edge list (`Simple`), with `nodes` exactly its end points (`NodesOf`: no isolated
vertex) and `2 ≤ m0`, every complete run returns cliques of the input with 2 to `m0` vertices such that every input
edge lies in exactly one of them and nothing but input edges is covered (`cover_cliques`, `cover_exact`,
`cover_exact_count`, `cover_disjoint`, `cover_pairs_are_edges`); while edges remain every allowed pick removes one, so
the loop cannot stall and some run of at most `|E|` picks exists (`progress`, `run_terminates`, `run_exists`).
Assumed: `nx.find_cliques` returns the maximal cliques; the model lists them by brute force (`maximalCliques`, specified
by `mem_maximalCliques_iff`) and the harness compares per instance.
Not proved: which candidate the float scores of the code select (only that the exact-score candidates are allowed,
`candidates_subset`), and the order in which the cover is returned.

The loop is handled through the invariant `Inv` (input edges = working graph + pairs of the edge-disjoint cover so
far; the candidates are cliques of the working graph), which every scoring round re-establishes (`inv_rescore`;
`inv_init` and `inv_step` are its instances).  `run_induction` carries what every allowed step preserves to the end of a
run, where no edge is left; the properties of the returned cover are read off there.
-/
namespace Gcmpy.EECC
open Gcmpy Gcmpy.Graph Gcmpy.Generate Gcmpy.MPCC

variable {edges g : List Edge} {nodes : List Nat} {m0 : Nat}

/-- `maximalCliques` (the stand-in for `nx.find_cliques`) lists exactly the non-empty ascending cliques with
vertices in `nodes` that no further vertex of `nodes` extends (isolated vertices are singleton cliques) -/
theorem mem_maximalCliques_iff (hn : nodes.Nodup) (c : List Nat) :
    c ∈ maximalCliques g nodes ↔
      c ≠ [] ∧ IsCliqueOf g c ∧ (∀ v ∈ c, v ∈ nodes) ∧ ∀ v ∈ nodes, v ∉ c → ∃ y ∈ c, ¬ EdgeIn g v y := by
  simp only [maximalCliques, List.mem_filter, mem_sublists_iff, sublist_sortNat_iff hn, decide_eq_true_eq,
    List.all_eq_true]
  constructor
  · rintro ⟨⟨hc, hsub⟩, hne, hcl, hmax⟩
    refine ⟨hne, ⟨hc, ((isClique_iff (sorted_nodup hc)).1 hcl).2⟩, hsub, fun v hv hvc => ?_⟩
    have h := (hmax v hv).resolve_left hvc
    rw [isClique_cons, and_iff_left hcl] at h
    exact Classical.not_forall_not.1 fun hall => h fun y hy => Classical.not_not.1 fun hy' => hall y ⟨hy, hy'⟩
  · rintro ⟨hne, hcl, hsub, hmax⟩
    refine ⟨⟨hcl.1, hsub⟩, hne, (isClique_iff hcl.isClique.1).2 hcl.isClique, fun v hv => ?_⟩
    refine (Classical.em (v ∈ c)).imp_right fun hvc h => ?_
    obtain ⟨y, hy, hny⟩ := hmax v hv hvc
    exact hny ((isClique_cons.1 h).1 y hy)

/-- the seed is any list of distinct, pairwise adjacent nodes; vertices adjacent to all of it are added while there
    are any, and the ascending listing of the result is the maximal clique -/
theorem exists_maximal_extension (hn : nodes.Nodup) (c : List Nat) (hne : c ≠ []) (hcl : IsClique g c)
    (hsub : ∀ v ∈ c, v ∈ nodes) : ∃ d ∈ maximalCliques g nodes, ∀ v ∈ c, v ∈ d := by
  induction hk : nodes.length - c.length using Nat.strongRecOn generalizing c with
  | _ k ih =>
  by_cases hmax : ∀ v ∈ nodes, v ∉ c → ∃ y ∈ c, ¬ EdgeIn g v y
  · have hm := fun v => (sortNat_perm c).mem_iff (a := v)
    obtain ⟨v, hv⟩ := List.exists_mem_of_ne_nil c hne
    refine ⟨sortNat c, (mem_maximalCliques_iff hn _).2
      ⟨List.ne_nil_of_mem ((hm v).2 hv), isCliqueOf_sortNat hcl, fun v hv => hsub v ((hm v).1 hv), ?_⟩,
      fun v => (hm v).2⟩
    intro v hv hvc
    obtain ⟨y, hy, h⟩ := hmax v hv (mt (hm v).2 hvc)
    exact ⟨y, (hm y).2 hy, h⟩
  · simp only [Classical.not_forall, not_exists, not_and, Classical.not_not] at hmax
    obtain ⟨v, hv, hvc, hall⟩ := hmax
    have hnd : (v :: c).Nodup := List.nodup_cons.2 ⟨hvc, hcl.1⟩
    have hsub' : ∀ w ∈ v :: c, w ∈ nodes := List.forall_mem_cons.2 ⟨hv, hsub⟩
    have hlen : (v :: c).length ≤ nodes.length := hnd.length_le_of_subset hsub'
    obtain ⟨d, hd, hcd⟩ := ih _ (by simp only [List.length_cons] at hlen ⊢; omega) (v :: c) (List.cons_ne_nil _ _)
      ((isClique_iff hnd).1 (isClique_cons.2 ⟨hall, (isClique_iff hcl.1).2 hcl⟩)) hsub' rfl
    exact ⟨d, hd, fun w hw => hcd w (List.mem_cons_of_mem _ hw)⟩

theorem edge_in_some_maximalClique (hn : nodes.Nodup) {a b : Nat} (he : EdgeIn g a b) (hab : a ≠ b)
    (ha : a ∈ nodes) (hb : b ∈ nodes) : ∃ d ∈ maximalCliques g nodes, HasPair d a b := by
  obtain ⟨d, hd, hcd⟩ := exists_maximal_extension hn [a, b] (List.cons_ne_nil _ _) (isClique_pair hab he)
    (by simp [ha, hb])
  exact ⟨d, hd, hcd a (by simp), hcd b (by simp), hab⟩

/-- `lmc` returns no clique twice (the repaired de-duplication) -/
theorem lmc_nodup (g : List Edge) (nodes : List Nat) (m0 : Nat) : (lmc g nodes m0).Nodup :=
  (List.foldr_perm insertKey_perm _).nodup_iff.2 (List.nodup_eraseDups _)

/-- `limited_maximal_cliques`: a maximal clique of at most `m0` vertices, or a sub-list with exactly `m0`
vertices of a larger one -/
theorem lmc_spec (c : List Nat) :
    c ∈ lmc g nodes m0 ↔
      ∃ d ∈ maximalCliques g nodes, (m0 < d.length ∧ c.Sublist d ∧ c.length = m0) ∨ (d.length ≤ m0 ∧ c = d) := by
  unfold lmc
  rw [(List.foldr_perm insertKey_perm _).mem_iff, List.mem_eraseDups, List.mem_flatMap]
  refine exists_congr fun d => and_congr_right fun _ => ?_
  by_cases h : m0 < d.length
  · simp only [gt_iff_lt, h, ↓reduceIte, mem_combinations_iff, true_and, Nat.not_le_of_lt h, false_and,
      or_false]
  · simp only [gt_iff_lt, h, ↓reduceIte, List.mem_singleton, false_and, Nat.le_of_not_lt h, true_and, false_or]

theorem mem_lmc (hn : nodes.Nodup) {c : List Nat} (hc : c ∈ lmc g nodes m0) :
    IsCliqueOf g c ∧ c.length ≤ m0 ∧ (1 ≤ m0 → 1 ≤ c.length) ∧ ∀ v ∈ c, v ∈ nodes := by
  obtain ⟨d, hd, h⟩ := (lmc_spec c).1 hc
  obtain ⟨hne, hcl, hsub, _⟩ := (mem_maximalCliques_iff hn d).1 hd
  rcases h with ⟨_, hs, hl⟩ | ⟨hl, rfl⟩
  · exact ⟨hcl.sublist hs, by omega, fun _ => by omega, fun v hv => hsub v (hs.subset hv)⟩
  · exact ⟨hcl, hl, fun _ => List.length_pos_iff.2 hne, hsub⟩

/-- every edge lies in a member of `lmc` (in its maximal clique or, if that is larger than `m0`, in one of its
`m0`-subsets) -/
theorem edge_in_some_lmc (hn : nodes.Nodup) {a b : Nat} (he : EdgeIn g a b) (hab : a ≠ b) (ha : a ∈ nodes)
    (hb : b ∈ nodes) (hm : 2 ≤ m0) : ∃ c ∈ lmc g nodes m0, HasPair c a b := by
  obtain ⟨d, hd, hp⟩ := edge_in_some_maximalClique hn he hab ha hb
  by_cases hl : d.length ≤ m0
  · exact ⟨d, (lmc_spec d).2 ⟨d, hd, Or.inr ⟨hl, rfl⟩⟩, hp⟩
  · obtain ⟨t, ht, ha', hb', hlen⟩ : ∃ t : List Nat, t.Sublist d ∧ a ∈ t ∧ b ∈ t ∧ t.length = 2 :=
      hp.mpcc.sublist.elim (fun h => ⟨_, h, by simp, by simp, rfl⟩) fun h => ⟨_, h, by simp, by simp, rfl⟩
    obtain ⟨s, hs1, hs2, hs3⟩ := List.exists_sublist_between ht m0 (by omega) (by omega)
    exact ⟨s, (lmc_spec s).2 ⟨d, hd, Or.inl ⟨by omega, hs2, hs3⟩⟩, hs1.subset ha', hs1.subset hb', hab⟩

theorem lmc_maximal_of_lt {c : List Nat} (hc : c ∈ lmc g nodes m0) (hl : c.length < m0) :
    c ∈ maximalCliques g nodes := by
  obtain ⟨d, hd, ⟨_, _, h⟩ | ⟨_, rfl⟩⟩ := (lmc_spec c).1 hc
  · omega
  · exact hd

/-- `hasEdge_removePairs` without `a ≠ b`: on a loop-free graph both sides are false for `a = b` -/
theorem removePairs_spec (hl : LoopFree g) (c : List Nat) (a b : Nat) :
    EdgeIn (removePairs g c) a b ↔ EdgeIn g a b ∧ ¬ HasPair c a b := by
  by_cases hab : a = b
  · exact ⟨fun h => absurd hab (h.ne (hl.sublist (removePairs_sublist g c))), fun h => absurd hab (h.1.ne hl)⟩
  · exact hasEdge_removePairs hab

theorem removeAll_spec (hl : LoopFree g) (EC : List (List Nat)) (a b : Nat) :
    EdgeIn (removeAll g EC) a b ↔ EdgeIn g a b ∧ ∀ c ∈ EC, ¬ HasPair c a b := by
  induction EC generalizing g with
  | nil => simp [removeAll_nil]
  | cons c cs ih =>
    rw [removeAll_cons, ih (hl.sublist (removePairs_sublist g c)), removePairs_spec hl]
    simp only [List.mem_cons, forall_eq_or_imp, and_assoc]

/-- a score-0 member of a scored list `C ⊆ lmc g nodes m0` (the whole list, or the one filtered to order > 1)
shares no pair with any OTHER member — also when its score is 0 only because its order is 2 -/
theorem scoreZero_disjoint (hn : nodes.Nodup) {C : List (List Nat)} (hC : ∀ c ∈ C, c ∈ lmc g nodes m0)
    {c d : List Nat} (hc : c ∈ C) (hd : d ∈ C) (hne : c ≠ d) (hz : scoreZero C c = true) :
    ∀ a b, HasPair c a b → ¬ HasPair d a b := by
  intro a b hpc hpd
  rcases scoreZero_iff.1 hz with hl | hall
  · -- `c` is `{a, b}`, so `c ⊆ d`; then `d = c`, since `d` has no more than `m0 ≤ 2` vertices or, for `m0 ≥ 3`,
    -- since `c` is a maximal clique
    obtain ⟨hcc, -, -, -⟩ := mem_lmc hn (hC c hc)
    obtain ⟨hdc, hdm, -, hdn⟩ := mem_lmc hn (hC d hd)
    have hcd : ∀ v ∈ c, v ∈ d := by
      rcases hpc.mpcc.eq_pair hl with rfl | rfl <;> simp [hpd.1, hpd.2.1]
    have h2 := hpc.mpcc.two_le_length
    by_cases hm : m0 ≤ 2
    · exact hne ((sublist_of_sorted_subset hcc.1 hdc.1 hcd).eq_of_length_le (by omega))
    · obtain ⟨-, -, -, hmax⟩ := (mem_maximalCliques_iff hn c).1 (lmc_maximal_of_lt (hC c hc) (by omega))
      refine hne (eq_of_sorted_of_mem_iff hcc.1 hdc.1 fun v => ⟨hcd v, fun hv => Classical.not_not.1 fun hvc => ?_⟩)
      obtain ⟨y, hy, hny⟩ := hmax v (hdn v hv) hvc
      exact hny (hdc.2 v hv y (hcd y hy) fun e => hvc (e ▸ hy))
  · rcases hpc.mpcc.mem_pairs with hp | hp
    · exact hall a b hp d hd hne.symm ⟨hpd.1, hpd.2.1⟩
    · exact hall b a hp d hd hne.symm ⟨hpd.2.1, hpd.1⟩

/-- the loop invariant of `get_EECC` -/
structure Inv (edges : List Edge) (nodes : List Nat) (m0 : Nat) (s : St) : Prop where
  /-- (a) every cover member is an ascending clique of the INPUT graph with `2 ≤ order ≤ m0` -/
  ec_clique : ∀ c ∈ s.EC, IsCliqueOf edges c ∧ 2 ≤ c.length ∧ c.length ≤ m0
  /-- (b) cover members are pairwise edge-disjoint -/
  ec_disjoint : s.EC.Pairwise (fun c d => ∀ a b, HasPair c a b → ¬ HasPair d a b)
  /-- (c) every input edge is still in the working graph or in a cover member … -/
  cover : ∀ a b, EdgeIn edges a b ↔ (EdgeIn s.g a b ∨ ∃ c ∈ s.EC, HasPair c a b)
  /-- … and never both -/
  excl : ∀ a b, EdgeIn s.g a b → ∀ c ∈ s.EC, ¬ HasPair c a b
  /-- (d) the working graph is a sub-list of the input -/
  sub : s.g.Sublist edges
  /-- (e) every candidate is an ascending clique of the CURRENT working graph with `2 ≤ order ≤ m0` -/
  c_clique : ∀ c ∈ s.C, IsCliqueOf s.g c ∧ 2 ≤ c.length ∧ c.length ≤ m0
  /-- (e') while edges remain there is a candidate (`min(r)` never sees an empty list) -/
  c_ne : s.g ≠ [] → s.C ≠ []

/-- `cover` and `excl` in one: the working graph is the input minus the pairs of the cover -/
theorem Inv.edgeIn_g {s : St} (hi : Inv edges nodes m0 s) (a b : Nat) :
    EdgeIn s.g a b ↔ EdgeIn edges a b ∧ ∀ c ∈ s.EC, ¬ HasPair c a b :=
  ⟨fun h => ⟨(hi.cover a b).2 (.inl h), hi.excl a b h⟩,
   fun h => ((hi.cover a b).1 h.1).resolve_right fun ⟨c, hc, hp⟩ => h.2 c hc hp⟩

/-- One scoring round re-establishes the invariant.  The round starts from a working graph `g` and a cover `EC` for
    which there is no candidate list yet, hence no `Inv`: `hsub`, `ec_clique`, `ec_disjoint` are the fields `sub`,
    `ec_clique`, `ec_disjoint` of `Inv` for that pair, and `hg` is `Inv.edgeIn_g` for it.  `hdrop` keeps singletons out
    of the scored list: later rounds drop them, the first relies on the graph having no isolated vertex
    (`lmc_no_singletons`). -/
theorem inv_rescore (hl : LoopFree edges) (hn : NodesOf edges nodes) (hm : 2 ≤ m0) {drop : Bool}
    {EC : List (List Nat)} (hsub : g.Sublist edges)
    (ec_clique : ∀ c ∈ EC, IsCliqueOf edges c ∧ 2 ≤ c.length ∧ c.length ≤ m0)
    (ec_disjoint : EdgeDisjoint EC)
    (hg : ∀ a b, EdgeIn g a b ↔ EdgeIn edges a b ∧ ∀ c ∈ EC, ¬ HasPair c a b)
    (hdrop : drop = true ∨ ∀ c ∈ lmc g nodes m0, 2 ≤ c.length) :
    Inv edges nodes m0 (rescore nodes m0 drop g EC) := by
  rw [rescore_eq]
  generalize hCdef : scoredList nodes m0 drop g = C
  generalize hZdef : C.filter (scoreZero C) = Z
  have hCmem : ∀ c, c ∈ C ↔ c ∈ lmc g nodes m0 ∧ 2 ≤ c.length := fun c => by
    rw [← hCdef, mem_scoredList_iff]
    exact and_congr_right fun hc => ⟨fun h => hdrop.elim h fun hdrop => hdrop c hc, fun h _ => h⟩
  have hClmc : ∀ c ∈ C, c ∈ lmc g nodes m0 := fun c hc => ((hCmem c).1 hc).1
  have hCcl : ∀ c ∈ C, IsCliqueOf g c ∧ 2 ≤ c.length ∧ c.length ≤ m0 := fun c hc =>
    ⟨(mem_lmc hn.1 (hClmc c hc)).1, ((hCmem c).1 hc).2, (mem_lmc hn.1 (hClmc c hc)).2.1⟩
  have hZ : ∀ z, z ∈ Z ↔ z ∈ C ∧ scoreZero C z = true := fun z => hZdef ▸ List.mem_filter
  have hZnd : Z.Nodup :=
    hZdef ▸ (hCdef ▸ (lmc_nodup g nodes m0).sublist scoredList_sublist).sublist List.filter_sublist
  have hZC : ∀ z ∈ Z, ∀ c ∈ C, z ≠ c → ∀ a b, HasPair z a b → ¬ HasPair c a b := fun z hz c hc hne =>
    scoreZero_disjoint hn.1 hClmc ((hZ z).1 hz).1 hc hne ((hZ z).1 hz).2
  have hlf : LoopFree g := hl.sublist hsub
  -- the working graph after the round, against `g` and against the input
  have hg' := fun a b => removeAll_spec hlf (EC ++ Z) a b
  have hg'e : ∀ a b, EdgeIn (removeAll g (EC ++ Z)) a b ↔
      EdgeIn edges a b ∧ ∀ c ∈ EC ++ Z, ¬ HasPair c a b :=
    fun a b => by
      rw [hg', hg, List.forall_mem_append, and_assoc, ← and_assoc (a := ∀ c ∈ EC, _), and_self]
  have hEC' : ∀ c ∈ EC ++ Z, IsCliqueOf edges c ∧ 2 ≤ c.length ∧ c.length ≤ m0 := fun c hc =>
    (List.mem_append.1 hc).elim (ec_clique c) fun hc =>
      have := hCcl c ((hZ c).1 hc).1
      ⟨this.1.mono hsub.subset, this.2⟩
  refine ⟨hEC', ?_, fun a b => ?_, fun a b he => ((hg' a b).1 he).2, removeAll_sublist.trans hsub,
    fun c hc => ?_, fun hne => ?_⟩
  · exact List.pairwise_append.2 ⟨ec_disjoint, hZnd.imp_of_mem fun hc hd hne => hZC _ hc _ ((hZ _).1 hd).1 hne,
      fun x hx y hy a b hpx hpy => ((hg a b).1 ((hCcl y ((hZ y).1 hy).1).1.edgeIn hpy)).2 x hx hpx⟩
  · constructor
    · intro he
      by_cases hex : ∃ c ∈ EC ++ Z, HasPair c a b
      · exact Or.inr hex
      · exact Or.inl ((hg'e a b).2 ⟨he, fun c hc hp => hex ⟨c, hc, hp⟩⟩)
    · rintro (h | ⟨c, hc, hp⟩)
      · exact ((hg'e a b).1 h).1
      · exact (hEC' c hc).1.edgeIn hp
  · -- a candidate stays a clique of the working graph: its pairs lie in no member of `EC` (`hg`) and in no
    -- score-0 clique (`scoreZero_disjoint`)
    have hc' : c ∈ C ∧ ¬ scoreZero C c = true := by simpa using List.mem_filter.1 hc
    refine ⟨⟨(hCcl c hc'.1).1.1, fun a ha b hb hab => ?_⟩, (hCcl c hc'.1).2⟩
    have hge : EdgeIn g a b := (hCcl c hc'.1).1.2 a ha b hb hab
    refine (hg' a b).2 ⟨hge, fun z hz hpz => ?_⟩
    rcases List.mem_append.1 hz with hz | hz
    · exact ((hg a b).1 hge).2 z hz hpz
    · exact hZC z hz c hc'.1 (fun e => hc'.2 (e ▸ ((hZ z).1 hz).2)) a b hpz ⟨ha, hb, hab⟩
  · -- an edge that is left lies in a member of `lmc`, which cannot have score 0
    obtain ⟨e, he⟩ := List.exists_mem_of_ne_nil _ hne
    obtain ⟨hge, hno⟩ := (hg' _ _).1 (edgeIn_of_mem he)
    have hnodes := hn.mem_of_edgeIn (hge.mono hsub.subset)
    obtain ⟨c, hc, hp⟩ := edge_in_some_lmc hn.1 hge (hge.ne hlf) hnodes.1 hnodes.2 hm
    have hcC : c ∈ C := (hCmem c).2 ⟨hc, hp.mpcc.two_le_length⟩
    have hnz : ¬ scoreZero C c = true := fun hz => hno c (List.mem_append_right _ ((hZ c).2 ⟨hcC, hz⟩)) hp
    exact List.ne_nil_of_mem (List.mem_filter.2 ⟨hcC, by simpa using hnz⟩)

/-- without isolated vertices `lmc` of the input graph has no singleton: a node has a neighbour, which a
    maximal clique `[v]` would have to exclude -/
theorem lmc_no_singletons (hl : LoopFree edges) (hn : NodesOf edges nodes) (hm : 2 ≤ m0) :
    ∀ c ∈ lmc edges nodes m0, 2 ≤ c.length := by
  intro c hc
  have h1 := (mem_lmc hn.1 hc).2.2.1 (by omega)
  refine Nat.le_of_not_lt fun hlt => ?_
  obtain ⟨_, _, hsub, hmax⟩ := (mem_maximalCliques_iff hn.1 c).1 (lmc_maximal_of_lt hc (by omega))
  obtain ⟨v, rfl⟩ := List.length_eq_one_iff.1 (by omega : c.length = 1)
  obtain ⟨w, hw, hne⟩ : ∃ w, EdgeIn edges w v ∧ w ≠ v := by
    obtain ⟨e, he, rfl | rfl⟩ := (hn.2 v).1 (hsub v List.mem_cons_self)
    · exact ⟨e.2, (edgeIn_of_mem he).symm, (hl e he).symm⟩
    · exact ⟨e.1, edgeIn_of_mem he, hl e he⟩
  obtain ⟨y, hy, hny⟩ := hmax w (hn.mem_of_edgeIn hw).1 (by simpa using hne)
  exact hny (List.mem_singleton.1 hy ▸ hw)

theorem inv_init (hs : Simple edges) (hn : NodesOf edges nodes) (hm : 2 ≤ m0) :
    Inv edges nodes m0 (init edges nodes m0) :=
  inv_rescore hs.loopFree hn hm (List.Sublist.refl _) (by simp) List.Pairwise.nil (by simp)
    (Or.inr (lmc_no_singletons hs.loopFree hn hm))

theorem inv_step (hs : Simple edges) (hn : NodesOf edges nodes) (hm : 2 ≤ m0) {s s' : St} {pick : List Nat}
    (hi : Inv edges nodes m0 s) (hstep : step nodes m0 s pick = some s') : Inv edges nodes m0 s' := by
  obtain ⟨hp, rfl⟩ := step_eq_some.1 hstep
  have hpc := hi.c_clique pick hp
  refine inv_rescore hs.loopFree hn hm ((removePairs_sublist _ _).trans hi.sub) ?_ ?_ (fun a b => ?_) (Or.inl rfl)
  · exact List.forall_mem_append.2
      ⟨hi.ec_clique, List.forall_mem_singleton.2 ⟨hpc.1.mono hi.sub.subset, hpc.2⟩⟩
  · refine List.pairwise_append.2 ⟨hi.ec_disjoint, List.pairwise_singleton _ _, fun x hx y hy a b hpx hpy => ?_⟩
    rw [List.mem_singleton.1 hy] at hpy
    exact hi.excl a b (hpc.1.edgeIn hpy) x hx hpx
  · rw [removePairs_spec (hs.loopFree.sublist hi.sub), hi.edgeIn_g, and_assoc, List.forall_mem_append,
      List.forall_mem_singleton]

theorem run_induction {P : St → Prop}
    (hstep : ∀ {s s' : St} {p : List Nat}, P s → step nodes m0 s p = some s' → P s')
    {picks : List (List Nat)} {s s' : St} (hr : run nodes m0 s picks = some s') (h : P s) : P s' ∧ s'.g = [] := by
  induction picks generalizing s with
  | nil =>
    obtain ⟨hg, rfl⟩ := run_nil_eq_some.1 hr
    exact ⟨h, hg⟩
  | cons p ps ih =>
    obtain ⟨-, s1, h1, h2⟩ := run_cons_eq_some.1 hr
    exact ih h2 (hstep h h1)

theorem inv_final (hs : Simple edges) (hn : NodesOf edges nodes) (hm : 2 ≤ m0) {picks : List (List Nat)}
    {s : St} (hr : run nodes m0 (init edges nodes m0) picks = some s) : Inv edges nodes m0 s :=
  (run_induction (inv_step hs hn hm) hr (inv_init hs hn hm)).1

theorem cover_cliques (hs : Simple edges) (hn : NodesOf edges nodes) (hm : 2 ≤ m0)
    {picks : List (List Nat)} {s : St} (hr : run nodes m0 (init edges nodes m0) picks = some s) :
    ∀ c ∈ s.EC, IsCliqueOf edges c ∧ 2 ≤ c.length ∧ c.length ≤ m0 :=
  (inv_final hs hn hm hr).ec_clique

/-- at exit `has_edges()` is false -/
theorem working_graph_empty {picks : List (List Nat)} {s0 s : St} (hr : run nodes m0 s0 picks = some s) :
    s.g = [] :=
  (run_induction (P := fun _ => True) (fun _ _ => trivial) hr trivial).2

theorem cover_exact (hs : Simple edges) (hn : NodesOf edges nodes) (hm : 2 ≤ m0)
    {picks : List (List Nat)} {s : St} (hr : run nodes m0 (init edges nodes m0) picks = some s) :
    ∀ e ∈ edges, ∃ c ∈ s.EC, HasPair c e.1 e.2 := by
  intro e he
  rcases ((inv_final hs hn hm hr).cover e.1 e.2).1 (edgeIn_of_mem he) with h | h
  · rw [working_graph_empty hr] at h
    exact absurd h (not_edgeIn_nil _ _)
  · exact h

theorem cover_disjoint (hs : Simple edges) (hn : NodesOf edges nodes) (hm : 2 ≤ m0)
    {picks : List (List Nat)} {s : St} (hr : run nodes m0 (init edges nodes m0) picks = some s) :
    s.EC.Pairwise (fun c d => ∀ a b, HasPair c a b → ¬ HasPair d a b) :=
  (inv_final hs hn hm hr).ec_disjoint

theorem cover_exact_count (hs : Simple edges) (hn : NodesOf edges nodes) (hm : 2 ≤ m0)
    {picks : List (List Nat)} {s : St} (hr : run nodes m0 (init edges nodes m0) picks = some s) :
    ∀ e ∈ edges, (s.EC.filter (fun c => e.1 ∈ c ∧ e.2 ∈ c)).length = 1 := by
  intro e he
  have hne : e.1 ≠ e.2 := hs.loopFree e he
  obtain ⟨c, hc, hp⟩ := cover_exact hs hn hm hr e he
  refine Nat.le_antisymm ((cover_disjoint hs hn hm hr).length_filter_le_one fun x y hx hy hR => ?_)
    (List.length_pos_of_mem (List.mem_filter.2 ⟨hc, decide_eq_true ⟨hp.1, hp.2.1⟩⟩))
  have hx := of_decide_eq_true hx
  have hy := of_decide_eq_true hy
  exact hR e.1 e.2 ⟨hx.1, hx.2, hne⟩ ⟨hy.1, hy.2, hne⟩

theorem cover_unique (hs : Simple edges) (hn : NodesOf edges nodes) (hm : 2 ≤ m0)
    {picks : List (List Nat)} {s : St} (hr : run nodes m0 (init edges nodes m0) picks = some s)
    {c d : List Nat} (hc : c ∈ s.EC) (hd : d ∈ s.EC) {a b : Nat} (hpc : HasPair c a b) (hpd : HasPair d a b) :
    c = d := by
  obtain ⟨i, hi⟩ := List.mem_iff_getElem?.1 hc
  obtain ⟨j, hj⟩ := List.mem_iff_getElem?.1 hd
  rw [EdgeDisjoint.index_unique (cover_disjoint hs hn hm hr) hi hj hpc hpd] at hi
  exact Option.some.inj (hi.symm.trans hj)

theorem cover_nodup (hs : Simple edges) (hn : NodesOf edges nodes) (hm : 2 ≤ m0)
    {picks : List (List Nat)} {s : St} (hr : run nodes m0 (init edges nodes m0) picks = some s) :
    s.EC.Nodup := by
  refine (cover_disjoint hs hn hm hr).imp_of_mem ?_
  intro c d hc _ hR hcd
  have hcl := cover_cliques hs hn hm hr c hc
  obtain ⟨a, b, hp⟩ := exists_hasPair hcl.1.isClique.1 hcl.2.1
  exact hR a b hp (hcd ▸ hp)

theorem cover_pairs_are_edges (hs : Simple edges) (hn : NodesOf edges nodes) (hm : 2 ≤ m0)
    {picks : List (List Nat)} {s : St} (hr : run nodes m0 (init edges nodes m0) picks = some s) :
    ∀ c ∈ s.EC, ∀ a b, HasPair c a b → EdgeIn edges a b :=
  fun c hc _ _ hp => (cover_cliques hs hn hm hr c hc).1.edgeIn hp

/-- while edges remain, `C` is non-empty (`min(r)` never sees an empty list) and EVERY allowed pick yields a
step that removes at least one edge -/
theorem progress {s : St} (hi : Inv edges nodes m0 s) (hne : s.g ≠ []) :
    s.C ≠ [] ∧ ∀ pick ∈ s.C, ∃ s', step nodes m0 s pick = some s' ∧ s'.g.length < s.g.length := by
  refine ⟨hi.c_ne hne, fun pick hp => ⟨_, step_eq_some.2 ⟨hp, rfl⟩, ?_⟩⟩
  have hpc := hi.c_clique pick hp
  obtain ⟨a, b, hab⟩ := exists_hasPair hpc.1.isClique.1 hpc.2.1
  rw [rescore_eq]
  exact Nat.lt_of_le_of_lt removeAll_sublist.length_le (removePairs_length_lt hab (hpc.1.edgeIn hab))

/-- hence `|E(g)|` iterations of fuel suffice: some pick sequence of at most that length finishes the loop -/
theorem run_terminates (hs : Simple edges) (hn : NodesOf edges nodes) (hm : 2 ≤ m0) {s : St}
    (hi : Inv edges nodes m0 s) :
    ∃ picks s', run nodes m0 s picks = some s' ∧ picks.length ≤ s.g.length := by
  induction hk : s.g.length using Nat.strongRecOn generalizing s with
  | _ k ih =>
  by_cases hg : s.g = []
  · exact ⟨[], s, run_nil_eq_some.2 ⟨hg, rfl⟩, Nat.zero_le _⟩
  · obtain ⟨hC, hall⟩ := progress hi hg
    obtain ⟨pick, hp⟩ := List.exists_mem_of_ne_nil _ hC
    obtain ⟨s1, hstep, hlt⟩ := hall pick hp
    obtain ⟨picks, s', hrun, hlen⟩ := ih _ (hk ▸ hlt) (inv_step hs hn hm hi hstep) rfl
    exact ⟨pick :: picks, s', run_cons_eq_some.2 ⟨hg, s1, hstep, hrun⟩,
      hk ▸ Nat.succ_le_of_lt (Nat.lt_of_le_of_lt hlen hlt)⟩

theorem run_exists (hs : Simple edges) (hn : NodesOf edges nodes) (hm : 2 ≤ m0) :
    ∃ picks s, run nodes m0 (init edges nodes m0) picks = some s ∧ picks.length ≤ edges.length := by
  obtain ⟨picks, s, hr, hl⟩ := run_terminates hs hn hm (inv_init hs hn hm)
  exact ⟨picks, s, hr, Nat.le_trans hl (inv_init hs hn hm).sub.length_le⟩

theorem isolated_maximal_in_init (hn : nodes.Nodup) {c : List Nat} (hc : c ∈ maximalCliques edges nodes)
    (hle : c.length ≤ m0)
    (hiso : ∀ d ∈ maximalCliques edges nodes, d ≠ c → ∀ a b, HasPair c a b → ¬ HasPair d a b) :
    c ∈ (init edges nodes m0).EC := by
  rw [init, rescore_eq]
  rw [scoredList_false, List.nil_append, List.mem_filter]
  refine ⟨(lmc_spec c).2 ⟨c, hc, Or.inr ⟨hle, rfl⟩⟩, scoreZero_iff.2 (Or.inr ?_)⟩
  obtain ⟨_, hcl, _, _⟩ := (mem_maximalCliques_iff hn c).1 hc
  intro a b hp d hd hne hab
  have hpc : HasPair c a b := hasPair_of_mem_pairs hcl.isClique.1 hp
  obtain ⟨d', hd', ⟨hlt, hsl, _⟩ | ⟨_, rfl⟩⟩ := (lmc_spec d).1 hd
  · exact hiso d' hd' (fun e => by rw [e] at hlt; omega) a b hpc ⟨hsl.subset hab.1, hsl.subset hab.2, hpc.2.2⟩
  · exact hiso d hd' hne a b hpc ⟨hab.1, hab.2, hpc.2.2⟩

theorem step_EC_subset {s s' : St} {p : List Nat} (h : step nodes m0 s p = some s') : ∀ c ∈ s.EC, c ∈ s'.EC := by
  obtain ⟨_, rfl⟩ := step_eq_some.1 h
  exact fun c hc => List.mem_append_left _ (List.mem_append_left _ hc)

/-- a maximal clique of the input with at most `m0` vertices that shares no edge with any other maximal clique
is a member of the final cover (it has score 0 in `init`, and `EC` only grows); the hypothesis
`2 ≤ c.length` is not needed -/
theorem isolated_maximal_intact (hn : NodesOf edges nodes) {picks : List (List Nat)} {s : St}
    (hr : run nodes m0 (init edges nodes m0) picks = some s) {c : List Nat}
    (hc : c ∈ maximalCliques edges nodes) (_h2 : 2 ≤ c.length) (hle : c.length ≤ m0)
    (hiso : ∀ d ∈ maximalCliques edges nodes, d ≠ c → ∀ a b, HasPair c a b → ¬ HasPair d a b) :
    c ∈ s.EC :=
  (run_induction (P := fun t => c ∈ t.EC) (fun h hst => step_EC_subset hst c h) hr
    (isolated_maximal_in_init hn.1 hc hle hiso)).1

/-- the heuristic's own candidate set (largest order among the minimum-score cliques, exact scores) is
allowed by the step relation -/
theorem candidates_subset (s : St) : ∀ c ∈ candidates s, c ∈ s.C :=
  fun _ hc => (List.mem_filter.1 (List.mem_filter.1 hc).1).1

/-- triangle `{1,2,3}` with the pendant edge `{3,4}` -/
def triPendant : List Edge := [(1, 2), (1, 3), (2, 3), (3, 4)]
/-- `K4` -/
def k4 : List Edge := [(1, 2), (1, 3), (1, 4), (2, 3), (2, 4), (3, 4)]
/-- two triangles sharing the edge `{2,3}` -/
def twoTri : List Edge := [(1, 2), (1, 3), (2, 3), (2, 4), (3, 4)]

example : Simple triPendant := by decide +kernel
example : Simple k4 := by decide +kernel
example : NodesOf triPendant [1, 2, 3, 4] :=
  ⟨by decide +kernel, fun v => by simp [triPendant]; omega⟩
example : NodesOf k4 [1, 2, 3, 4] :=
  ⟨by decide +kernel, fun v => by simp [k4]; omega⟩
example : ¬ Simple [(1, 2), (2, 1)] := by decide +kernel

example : maximalCliques triPendant [1, 2, 3, 4] = [[3, 4], [1, 2, 3]] := by decide +kernel
example : lmc triPendant [1, 2, 3, 4] 3 = [[1, 2, 3], [3, 4]] := by decide +kernel
example : lmc k4 [1, 2, 3, 4] 3 = [[1, 2, 3], [1, 2, 4], [1, 3, 4], [2, 3, 4]] := by decide +kernel

/-- triangle + pendant edge, `m0 = 3`: both maximal cliques have score 0, no iteration is needed -/
example : (run [1, 2, 3, 4] 3 (init triPendant [1, 2, 3, 4] 3) []).map (fun s => (s.g, s.EC, s.C)) =
    some ([], [[1, 2, 3], [3, 4]], []) := by decide +kernel
/-- the same graph with `m0 = 2`: the triangle is split into its three edges -/
example : (run [1, 2, 3, 4] 2 (init triPendant [1, 2, 3, 4] 2) []).map (·.EC) =
    some [[1, 2], [1, 3], [2, 3], [3, 4]] := by decide +kernel

/-- `K4`, `m0 = 3`: all four triangles overlap, nothing has score 0 and all four are candidates -/
example : (init k4 [1, 2, 3, 4] 3).g = k4 ∧ (init k4 [1, 2, 3, 4] 3).EC = [] ∧
    (init k4 [1, 2, 3, 4] 3).C = [[1, 2, 3], [1, 2, 4], [1, 3, 4], [2, 3, 4]] ∧
    candidates (init k4 [1, 2, 3, 4] 3) = [[1, 2, 3], [1, 2, 4], [1, 3, 4], [2, 3, 4]] := by decide +kernel
/-- two different picks give two different (both exact) covers -/
example : (run [1, 2, 3, 4] 3 (init k4 [1, 2, 3, 4] 3) [[1, 2, 3]]).map (fun s => (s.g, s.EC)) =
    some ([], [[1, 2, 3], [1, 4], [2, 4], [3, 4]]) := by decide +kernel
example : (run [1, 2, 3, 4] 3 (init k4 [1, 2, 3, 4] 3) [[2, 3, 4]]).map (fun s => (s.g, s.EC)) =
    some ([], [[2, 3, 4], [1, 2], [1, 3], [1, 4]]) := by decide +kernel
/-- a pick outside `C`, too few picks, and left-over picks are rejected -/
example : (run [1, 2, 3, 4] 3 (init k4 [1, 2, 3, 4] 3) [[1, 2]]).isNone = true := by decide +kernel
example : (run [1, 2, 3, 4] 3 (init k4 [1, 2, 3, 4] 3) []).isNone = true := by decide +kernel
example : (run [1, 2, 3, 4] 3 (init k4 [1, 2, 3, 4] 3) [[1, 2, 3], [1, 4]]).isNone = true := by
  decide +kernel

/-- two triangles sharing an edge: picking one leaves the other's two free edges -/
example : (run [1, 2, 3, 4] 3 (init twoTri [1, 2, 3, 4] 3) [[1, 2, 3]]).map (·.EC) =
    some [[1, 2, 3], [2, 4], [3, 4]] := by decide +kernel

/-- why the hypotheses are there: with `m0 = 0` the empty list is a member of `lmc` (so `1 ≤ c.length` in
`mem_lmc` needs `1 ≤ m0`), and an isolated vertex (excluded by `NodesOf`) puts a singleton into the cover in
`init` (later rounds drop singletons) -/
example : lmc [(1, 2)] [1, 2] 0 = [[]] := by decide +kernel
example : (init [(1, 2)] [1, 2, 3] 2).EC = [[1, 2], [3]] := by decide +kernel

end Gcmpy.EECC
