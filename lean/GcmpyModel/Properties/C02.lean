import GcmpyModel.Properties.C01Custom
import GcmpyModel.Lemmas.ListFacts
/-!
# C02 — edge-list columns stay parallel and motif identities are well formed

`rows el` zips the three columns.  The theorems say that, for every motif record in order, the rows it
contributes are exactly the edges its build callback returned, each tagged with the prescribed name and
with that record's id; ids are `0, 1, 2, …` in call order, hence pairwise distinct.
All statements are for every list of draws (`σ` arbitrary) and arbitrary callbacks.
-/
namespace List

theorem zip_replicate_right {α β : Type} (l : List α) (x : β) : l.zip (replicate l.length x) = l.map (·, x) := by
  rw [← map_const', ← map_prod_left_eq_zip]

theorem length_flatMap_congr {α β γ : Type} (f : α → List β) (g : α → List γ) (l : List α)
    (h : ∀ a ∈ l, (f a).length = (g a).length) :
    (l.flatMap f).length = (l.flatMap g).length := by
  rw [length_flatMap, length_flatMap, map_congr_left h]

theorem zip_flatMap {α β γ : Type} (f : α → List β) (g : α → List γ) (l : List α)
    (h : ∀ a ∈ l, (f a).length = (g a).length) :
    (l.flatMap f).zip (l.flatMap g) = l.flatMap fun a => (f a).zip (g a) := by
  induction l with
  | nil => rfl
  | cons a t ih =>
    rw [flatMap_cons, flatMap_cons, flatMap_cons, zip_append (h a mem_cons_self),
      ih fun a ha => h a (mem_cons_of_mem _ ha)]

end List

namespace Gcmpy.Generate

def rows {ν : Type} (el : EdgeList ν) : List ((Nat × Nat) × ν × Nat) := el.edges.zip (el.topologies.zip el.motifId)

/-! ### columns that are extended together, item after item

Both generators extend each of the three columns once per motif; what one item contributes to the rows is
the zip of what it contributes to the columns, provided these pieces are equally long. -/

theorem rows_flatMap {α ν : Type} (e : α → List (Nat × Nat)) (t : α → List ν) (i : α → List Nat)
    (l : List α)
    (jds : List (List Nat)) (h : ∀ a ∈ l, (e a).length = (t a).length ∧ (t a).length = (i a).length) :
    rows ⟨l.flatMap e, l.flatMap t, l.flatMap i, jds⟩ = l.flatMap fun a => (e a).zip ((t a).zip (i a)) := by
  rw [rows, List.zip_flatMap t i l fun a ha => (h a ha).2, List.zip_flatMap e _ l fun a ha => by
    rw [List.length_zip, ← (h a ha).2, Nat.min_self]; exact (h a ha).1]

section fast
variable {ν : Type} (names : Nat → ν) (ms : List (Motif (List (Nat × Nat)))) (jds : List (List Nat))

theorem fast_columns_parallel :
    (edgeListFast names ms jds).edges.length = (edgeListFast names ms jds).topologies.length ∧
    (edgeListFast names ms jds).edges.length = (edgeListFast names ms jds).motifId.length := by
  simp [edgeListFast, List.length_flatMap]

/-- the rows are, motif after motif, the callback's edges tagged with the topology's name and the motif's id -/
theorem fast_rows :
    rows (edgeListFast names ms jds) = ms.flatMap fun m => m.built.map fun e => (e, names m.top, m.id) := by
  rw [edgeListFast, rows_flatMap _ _ _ _ _ fun _ _ => by simp]
  simp only [List.zip_replicate', List.zip_replicate_right]

/-- distinct instances never share an id: ids are the running counter -/
theorem fast_ids_distinct {β : Type} (sizes : List Nat) (build : Nat → List Nat → β) (σ : List (List Nat)) :
    ((motifsFast sizes build σ).map (·.id)).Nodup := by
  rw [motifsFast_eq_records, records_ids]; exact List.nodup_range

/-- the rows sharing motif `m`'s id are exactly the edges its build call returned (given distinct ids) -/
theorem fast_id_group (hnd : (ms.map (·.id)).Nodup) (m : Motif (List (Nat × Nat))) (hm : m ∈ ms) :
    ((rows (edgeListFast names ms jds)).filter (fun r => r.2.2 = m.id)) = m.built.map fun e => (e, names m.top, m.id) := by
  -- a motif's rows all carry its id, so filtering the rows is selecting the motifs; only `m` has `m.id`
  rw [fast_rows]
  refine (List.filter_flatMap_index (fun r : (Nat × Nat) × ν × Nat => r.2.2) (fun m => m.id)
    (fun _ _ r hr => by obtain ⟨e, _, rfl⟩ := List.mem_map.1 hr; rfl) m.id).trans ?_
  rw [List.filter_index_of_mem (fun m => m.id) hnd hm, List.flatMap_singleton]

end fast

/-! ### custom-motif generator

The code tells a bare `(a, b)` from a sequence of edges by the type of the first element; `Built` mirrors that
distinction. -/

/-- the naming callback returns as many names as the build callback returns edges (one name for a bare edge) -/
def NamesOk (names : Nat → Named) (m : Motif Built) : Prop :=
  match m.built, names m.top with
  | .bare _ _, .single _ => True
  | .edges l, .many ns => ns.length = l.length
  | _, _ => False

/-- rows one motif must contribute: position `t` of the naming callback's result goes with edge `t` -/
def rowsOf (names : Nat → Named) (m : Motif Built) : List ((Nat × Nat) × Cell × Nat) :=
  match m.built, names m.top with
  | .bare a b, .single s => [((a, b), Cell.name s, m.id)]
  | .edges l, .many ns => l.zip ((ns.map Cell.name).zip (List.replicate l.length m.id))
  | _, _ => []

section custom
variable (names : Nat → Named) (jds : List (List Nat))

theorem NamesOk.cases {names : Nat → Named} {m : Motif Built} (h : NamesOk names m) :
    (∃ a b s, m.built = .bare a b ∧ names m.top = .single s) ∨
    (∃ l ns, m.built = .edges l ∧ names m.top = .many ns ∧ ns.length = l.length) := by
  unfold NamesOk at h
  split at h
  · exact .inl ⟨_, _, _, ‹_›, ‹_›⟩
  · exact .inr ⟨_, _, ‹_›, ‹_›, h⟩
  · exact h.elim

theorem custom_columns_parallel (ms : List (Motif Built)) (hok : ∀ m ∈ ms, NamesOk names m) :
    (edgeListCustom names ms jds).edges.length = (edgeListCustom names ms jds).topologies.length ∧
    (edgeListCustom names ms jds).edges.length = (edgeListCustom names ms jds).motifId.length := by
  unfold edgeListCustom
  constructor
  · -- edges against names
    refine List.length_flatMap_congr _ _ ms fun m hm => ?_
    rcases (hok m hm).cases with ⟨a, b, s, hb, hn⟩ | ⟨l, ns, hb, hn, hl⟩
    · simp only [hb, hn]; rfl
    · simp only [hb, hn, List.length_map, hl]
  · -- edges against ids
    refine List.length_flatMap_congr _ _ ms fun m hm => ?_
    rcases (hok m hm).cases with ⟨a, b, s, hb, hn⟩ | ⟨l, ns, hb, hn, hl⟩
    · simp only [hb]; rfl
    · simp only [hb, List.length_replicate]

theorem custom_rows (ms : List (Motif Built)) (hok : ∀ m ∈ ms, NamesOk names m) :
    rows (edgeListCustom names ms jds) = ms.flatMap (rowsOf names) := by
  unfold edgeListCustom
  refine (rows_flatMap _ _ _ ms jds fun m hm => ?_).trans ?_
  · rcases (hok m hm).cases with ⟨a, b, s, hb, hn⟩ | ⟨l, ns, hb, hn, hl⟩
    · simp only [hb, hn]; exact ⟨rfl, rfl⟩
    · simp only [hb, hn, List.length_map, List.length_replicate, hl, and_self]
  · rw [List.flatMap_def, List.flatMap_def, List.map_congr_left fun m hm => ?_]
    rcases (hok m hm).cases with ⟨a, b, s, hb, hn⟩ | ⟨l, ns, hb, hn, hl⟩ <;> simp only [rowsOf, hb, hn] <;> rfl

/-- ids of the custom generator are the running counter as well -/
theorem custom_ids (sizes : List Nat) (orbits : List (List Nat)) (build : Nat → List Nat → Built)
    (σ : List (List Nat)) (ms : List (Motif Built)) (h : motifsCustom sizes orbits build σ = some ms) :
    ms.map (·.id) = List.range ms.length := by
  obtain ⟨gs, rfl⟩ := exists_records_of_motifsCustom h
  exact (records_ids build gs).trans (by rw [length_records])

/-- `custom_build_applied` (C01) at `Built` -/
theorem custom_built_is_callback_result (sizes : List Nat) (orbits : List (List Nat)) (build : Nat → List Nat → Built)
    (σ : List (List Nat)) (ms : List (Motif Built)) (h : motifsCustom sizes orbits build σ = some ms)
    (m : Motif Built) (hm : m ∈ ms) : m.built = build m.top m.verts :=
  custom_build_applied sizes orbits build σ ms h m hm

/-! The next three are `rowsOf` at the shapes C02 names explicitly ("including motifs whose build callback returns a
single bare edge or exactly two edges"), and at a one-edge sequence. -/

/-- one bare edge: exactly one row, one id, the single name -/
theorem bare_edge_row (m : Motif Built) (a b : Nat) (s : String) (hb : m.built = .bare a b)
    (hn : names m.top = .single s) : rowsOf names m = [((a, b), Cell.name s, m.id)] := by
  unfold rowsOf; rw [hb, hn]

/-- a motif of exactly two edges contributes two rows with its two names and one shared id -/
theorem two_edge_rows (m : Motif Built) (e1 e2 : Nat × Nat) (n1 n2 : String) (hb : m.built = .edges [e1, e2])
    (hn : names m.top = .many [n1, n2]) :
    rowsOf names m = [(e1, Cell.name n1, m.id), (e2, Cell.name n2, m.id)] := by
  unfold rowsOf; rw [hb, hn]; rfl

theorem one_edge_rows (m : Motif Built) (e1 : Nat × Nat) (n1 : String) (hb : m.built = .edges [e1])
    (hn : names m.top = .many [n1]) : rowsOf names m = [(e1, Cell.name n1, m.id)] := by
  unfold rowsOf; rw [hb, hn]; rfl

end custom

/-! Non-vacuity: the kind of configuration gcmpy's test suite uses (bare 2-clique + triangle with per-edge names). -/
example :
    let names : Nat → Named := fun j => if j = 0 then .single "2-clique" else .many ["a", "b", "c"]
    let ms : List (Motif Built) := [⟨0, 0, [4, 7], .bare 4 7⟩, ⟨1, 1, [1, 2, 3], .edges [(1, 2), (1, 3), (2, 3)]⟩]
    (∀ m ∈ ms, NamesOk names m) ∧ (rows (edgeListCustom names ms [])).length = 4 := by
  refine ⟨?_, by decide⟩
  intro m hm
  simp only [List.mem_cons, List.mem_nil_iff, or_false] at hm
  rcases hm with rfl | rfl <;> simp [NamesOk]

end Gcmpy.Generate
