import GcmpyModel.Lemmas.Rewire
import GcmpyModel.Properties.C12
/-!
# C11 (continued) — the whole of `rewire()`: both while-loops, the drawable edge set, the counters

Model: `Model/Rewire.lean` (`rewire cfg G evs rs`: the loop of `MarkovChainMonteCarloRewiring.rewire()` under a script
of draws `evs` and uniform numbers `rs`, of ANY length).  The theorems of `Properties/C11.lean` speak about one step
under the hypothesis `Ok` (real corners, `is_edge_choice_suitable` said yes) and about histories `Steps` of such steps;
here it is proved that the loop of `rewire()` only ever makes such steps, so that the conclusions hold of whatever
`rewire()` returns, for every script, every pair of limits and both attribute assignments.
-/
namespace Gcmpy.Rewire
open Gcmpy Gcmpy.Graph Gcmpy.MCMC

variable (cfg : Cfg) (G : Net) (evs : List DrawEv) (rs : List (Option Rat))

-- each of the following restates the theorem of the same name in `Lemmas/Rewire.lean`, where it is proved

theorem init_sync (hWF : WF G) : Sync (init G) := Lemmas.init_sync G hWF

/-- the graph held at the end is reachable from the input by `Steps` (code as written) -/
theorem rewire_steps (hf : cfg.fixed = false) (hWF : WF G) :
    Steps cfg.names cfg.target G (rewire cfg G evs rs).st.G := Lemmas.rewire_steps cfg G evs rs hf hWF

/-- same annotated vertices, same number of edges, same topology degree at every vertex, simple graph -/
theorem rewire_invariants (hWF : WF G) :
    WF (rewire cfg G evs rs).st.G ∧ (rewire cfg G evs rs).st.G.jd = G.jd ∧
    (rewire cfg G evs rs).st.G.edges.length = G.edges.length ∧
    ∀ v t, topDegree (rewire cfg G evs rs).st.G v t = topDegree G v t := Lemmas.rewire_invariants cfg G evs rs hWF

/-- the drawable edge set (the C20 model, driven by the very `add`/`remove` calls of `rewire()`) holds exactly the edges
    of the graph, at the end of every run -/
theorem rewire_sync (hWF : WF G) : Sync (rewire cfg G evs rs).st := Lemmas.rewire_sync cfg G evs rs hWF

/-- on a well-formed input none of the internal errors can occur: KeyError on a drawn edge, IndexError in the pairing,
    "already present", KeyError in `EdgeSet.remove`, the edge-count test -/
theorem rewire_no_internal_error (hWF : WF G) :
    (rewire cfg G evs rs).outcome ∉
      [Outcome.keyError, .raisedIndex, .raisedEdgePresent, .raisedRemove, .raisedCount] :=
  Lemmas.rewire_no_internal_error cfg G evs rs hWF

/-- a run that ends normally has accepted exactly `limit + 1` swaps (`while count <= limit`) -/
theorem rewire_done_count (h : (rewire cfg G evs rs).outcome = .done) :
    (rewire cfg G evs rs).st.count = cfg.climit + 1 := Lemmas.rewire_done_count cfg G evs rs h

/-- the counter equals the number of accepted proposals in the trace -/
theorem rewire_count_accepts (hWF : WF G) :
    (rewire cfg G evs rs).st.count = ((rewire cfg G evs rs).trace.filter fun r => r.d = .accept).length :=
  Lemmas.rewire_count_accepts cfg G evs rs hWF

/-! ## non-vacuity: a complete run on the two triangles with heterogeneous joint degrees of `Properties/C12.lean`
(`mixedTriangles`, `mixedTarget`; limit 0: one accepted swap).  With all joint degrees equal every proposal "changes
nothing" and is rejected, hence the heterogeneous network. -/

def demoCfg : Cfg :=
  { names := ["t"], target := mixedTarget, climit := 0, slimit := 5, fixed := false }

/-- the intended attribute assignment, same script -/
def demoCfgFixed : Cfg := { demoCfg with fixed := true }

/-- the first draw is the edge `(0, 1)` (corner of triangle `{0,1,2}` at `0`), the second `(3, 4)` (corner of
    triangle `{3,4,5}` at `3`) -/
def demoEvs : List DrawEv :=
  [⟨(0, 1), [(0, 1), (0, 2)]⟩, ⟨(3, 4), [(3, 4), (3, 5)]⟩]

/-- the one uniform number consumed by the Metropolis test (ratio `16 > 1/2`) -/
def demoRs : List (Option Rat) := [some (1/2)]

example : WF mixedTriangles := by unfold WF; decide +kernel

/-- the run ends normally … -/
example : (rewire demoCfg mixedTriangles demoEvs demoRs).outcome = .done := by decide +kernel
/-- … after exactly one accepted swap (`limit + 1`) … -/
example : (rewire demoCfg mixedTriangles demoEvs demoRs).st.count = 1 := by decide +kernel
/-- … which is the only proposal of the trace: corners at `0` and `3`, the uniform number consumed, accepted … -/
example : (rewire demoCfg mixedTriangles demoEvs demoRs).trace.map (·.d) = [.accept] ∧
    (rewire demoCfg mixedTriangles demoEvs demoRs).trace.map (fun r => (r.u0, r.v0, r.r)) = [(0, 3, some (1/2))] ∧
    (rewire demoCfg mixedTriangles demoEvs demoRs).trace.map (fun r => (r.e0s, r.e1s)) =
      [([(0, 1), (0, 2)], [(3, 4), (3, 5)])] := by decide +kernel
/-- … the whole script was used … -/
example : ((rewire demoCfg mixedTriangles demoEvs demoRs).drawsLeft, (rewire demoCfg mixedTriangles demoEvs demoRs).rsLeft)
    = (0, 0) := by decide +kernel
/-- … the graph was rewired (the two corners were exchanged) … -/
example : (rewire demoCfg mixedTriangles demoEvs demoRs).st.G.edges.map (·.1) =
    [(1, 2), (4, 5), (0, 5), (1, 3), (0, 4), (2, 3)] := by decide +kernel
/-- … and the drawable set holds the same six edges -/
example : (rewire demoCfg mixedTriangles demoEvs demoRs).st.S.edges.length = 6 ∧
    ((rewire demoCfg mixedTriangles demoEvs demoRs).st.G.edges.map (·.1)).all
      (DrawSet.contains (rewire demoCfg mixedTriangles demoEvs demoRs).st.S) = true := by decide +kernel

/-- the same with the intended attribute assignment -/
example : (rewire demoCfgFixed mixedTriangles demoEvs demoRs).outcome = .done ∧
    (rewire demoCfgFixed mixedTriangles demoEvs demoRs).st.count = 1 ∧
    (rewire demoCfgFixed mixedTriangles demoEvs demoRs).trace.map (·.d) = [.accept] := by decide +kernel

/-- a script that is too short is reported as such (not as a normal end) -/
example : (rewire demoCfg mixedTriangles (demoEvs.take 1) demoRs).outcome = .exhausted := by decide +kernel

/-- on the homogeneous two triangles of `Properties/C11.lean` the same script is rejected ("changes nothing"):
    the loop goes on and the script runs out -/
example : (rewire { demoCfg with target := [("t", [([1, 1], 1)])] } twoTriangles demoEvs demoRs).outcome = .exhausted ∧
    (rewire { demoCfg with target := [("t", [([1, 1], 1)])] } twoTriangles demoEvs demoRs).trace.map (·.d) = [.reject] := by
  decide +kernel

/-- a proposal whose ratio is at least one (here `16`) is accepted whatever the uniform number: a script entry `none`
    ("no number drawn") is admissible, the run ends normally with one accepted swap and `r = none` in the trace -/
example : (rewire demoCfg mixedTriangles demoEvs [none]).outcome = .done ∧
    (rewire demoCfg mixedTriangles demoEvs [none]).st.count = 1 ∧
    (rewire demoCfg mixedTriangles demoEvs [none]).trace.map (fun r => (r.r, r.d)) = [(none, .accept)] ∧
    ratioOf mixedTriangles ["t"] mixedTarget 0 3 [(0, 1), (0, 2)] [(3, 4), (3, 5)] = some 16 := by decide +kernel

/-- the target with the weights exchanged: the same proposal has ratio `1/16 < 1` -/
def lowTarget : Target := [("t", [([1, 4], 1/4), ([3, 2], 1/4), ([1, 2], 1/2), ([3, 4], 1/2)])]

/-- when the ratio is below one the answer depends on the uniform number: a script entry `none` is reported as
    `missingUniform` (state untouched, nothing recorded), while a number below the ratio gives an accepted swap and a
    number above it a rejection -/
example : ratioOf mixedTriangles ["t"] lowTarget 0 3 [(0, 1), (0, 2)] [(3, 4), (3, 5)] = some (1/16) ∧
    (rewire { demoCfg with target := lowTarget } mixedTriangles demoEvs [none]).outcome = .missingUniform ∧
    (rewire { demoCfg with target := lowTarget } mixedTriangles demoEvs [none]).st.count = 0 ∧
    (rewire { demoCfg with target := lowTarget } mixedTriangles demoEvs [none]).trace.length = 0 ∧
    (rewire { demoCfg with target := lowTarget } mixedTriangles demoEvs [some (1/32)]).outcome = .done ∧
    (rewire { demoCfg with target := lowTarget } mixedTriangles demoEvs [some (1/32)]).trace.map (·.d) = [.accept] ∧
    (rewire { demoCfg with target := lowTarget } mixedTriangles demoEvs [some (1/2)]).trace.map (·.d) = [.reject] := by
  decide +kernel

end Gcmpy.Rewire
