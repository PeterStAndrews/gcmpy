import GcmpyModel.Lemmas.SplitDegree
/-!
Property C07: `JointDegreeSplitDegree` and `JointDegreeDelta`.

Notation used in the statements:
  `splitTotal probs k`  = `W k` = `((validSplits k probs.length).map (splitWeight probs)).sum` (defined in the
  lemma file); `S` is written out as `((rangeAB lo hi).map fp).sum`.
-/
namespace Gcmpy.SplitDegree
open Gcmpy Gcmpy.Loaders

theorem resolve_get {probs : List Rat} {k : Nat} {w : Rat} {table table' : Table} (jd : JD)
    (h : resolve probs k w table = .ok table') :
    Dict.get table' jd = if jd ∈ validSplits k probs.length
      then some (w * (splitWeight probs jd / splitTotal probs k)) else Dict.get table jd := by
  rcases Nat.eq_zero_or_pos probs.length with h0 | ht
  · -- no topology: no split, the table is returned as it is
    simp only [resolve, h0, validSplits, List.isEmpty_nil, if_true] at h
    cases h; rw [h0]; rfl
  · rw [resolve_eq ht] at h
    split at h
    · cases h
    · -- `by congr`: the library decides `jd ∈ _` from `DecidableEq`, the statement through `List.instBEq`
      cases h; exact (Dict.get_foldl_set _ _ table jd).trans (by congr)

/-- every split of `k` gets `w` times its weight normalised within the class -/
theorem resolve_get_split {probs : List Rat} {k : Nat} {w : Rat} {table table' : Table} {jd : JD}
    (h : resolve probs k w table = .ok table') (hjd : jd ∈ validSplits k probs.length) :
    Dict.get table' jd = some (w * (splitWeight probs jd / splitTotal probs k)) :=
  (resolve_get jd h).trans (if_pos hjd)

/-- entries of other degrees are untouched -/
theorem resolve_get_other {probs : List Rat} {k : Nat} {w : Rat} {table table' : Table} {jd : JD}
    (h : resolve probs k w table = .ok table') (hne : edgesOf jd ≠ k) :
    Dict.get table' jd = Dict.get table jd :=
  (resolve_get jd h).trans (if_neg fun hm => hne (validSplits_sound hm).2)

/-- on a table holding no split of `k` yet, the splits are appended in generator order -/
theorem resolve_keys {probs : List Rat} {k : Nat} {w : Rat} {table table' : Table}
    (ht : 1 ≤ probs.length) (hk : ∀ jd ∈ Dict.keys table, edgesOf jd ≠ k)
    (h : resolve probs k w table = .ok table') :
    Dict.keys table' = Dict.keys table ++ validSplits k probs.length := by
  rw [(resolve_ok_setAll ht h).2, Dict.setAll_append _ _ (splitRows_nodup ..) fun jd hjd hm =>
    hk jd hm (validSplits_sound (splitRows_keys probs w k ▸ hjd)).2, Dict.keys_append, splitRows_keys]

/-- the `ZeroDivisionError` branch is taken exactly when the class total vanishes -/
theorem resolve_error_iff {probs : List Rat} {k : Nat} {w : Rat} {table : Table}
    (ht : 1 ≤ probs.length) :
    resolve probs k w table = .error .zeroDivision ↔ splitTotal probs k = 0 := by
  rw [resolve_eq ht]
  split <;> simp [*]

/-- `probs = [0, 1]`, odd `k`: every split uses at least one ordinary edge, all weights vanish -/
theorem resolve_zeroDivision_of_odd (k : Nat) (w : Rat) (table : Table) (hk : k % 2 = 1) :
    resolve [0, 1] k w table = .error .zeroDivision := by
  rw [resolve_error_iff (by simp), splitTotal]
  apply List.sum_eq_zero
  intro x hx
  obtain ⟨jd, hjd, rfl⟩ := List.mem_map.1 hx
  simp only [List.length_cons, List.length_nil, validSplits, List.mem_flatMap, List.mem_range,
    List.mem_map, List.mem_singleton] at hjd
  obtain ⟨i, hi, row, rfl, rfl⟩ := hjd
  have h2 : i * 2 ≤ k := (Nat.le_div_iff_mul_le (by omega)).1 (by omega)
  have : k - i * 2 ≠ 0 := by omega
  simp [splitWeight, this]

section Split
variable {fp : Nat → Rat} {probs : List Rat} {lo hi : Nat} {T : Table}

/-- a successful run means no class total vanished -/
theorem split_ok_totals (ht : 1 ≤ probs.length) (h : splitDegree fp probs lo hi = .ok T)
    (k : Nat) (h1 : lo ≤ k) (h2 : k < hi) : splitTotal probs k ≠ 0 :=
  (split_classes ht h).1 k ((mem_rangeAB lo hi k).2 ⟨h1, h2⟩)

/-- the total mass of overall degree `k` is `fp k / S` -/
theorem split_class_mass (ht : 1 ≤ probs.length) (h : splitDegree fp probs lo hi = .ok T)
    (k : Nat) (h1 : lo ≤ k) (h2 : k < hi) :
    ((T.filter (fun p => edgesOf p.1 = k)).map (·.2)).sum = fp k / ((rangeAB lo hi).map fp).sum :=
  (split_classes ht h).2.class_mass ((mem_rangeAB lo hi k).2 ⟨h1, h2⟩)

/-- within one overall degree the mass is proportional to `splitWeight` -/
theorem split_within_class (ht : 1 ≤ probs.length) (h : splitDegree fp probs lo hi = .ok T)
    {jd : JD} {k : Nat} (he : edgesOf jd = k) (h1 : lo ≤ k) (h2 : k < hi)
    (hl : jd.length = probs.length) :
    Dict.get T jd = some (fp k * (splitWeight probs jd / splitTotal probs k)
      / ((rangeAB lo hi).map fp).sum) :=
  (split_classes ht h).2.get ((mem_rangeAB lo hi k).2 ⟨h1, h2⟩)
    (List.mem_map.2 ⟨jd, validSplits_complete ht hl he, rfl⟩)

theorem split_sums_one (h : splitDegree fp probs lo hi = .ok T) (hT : T ≠ []) :
    (T.map (·.2)).sum = 1 := by
  obtain ⟨_, -, h'⟩ := bind_ok h
  exact normalise_sums_one h' hT

/-- the keys are exactly the joint degrees of the right length whose edge count lies in the range -/
theorem split_support (ht : 1 ≤ probs.length) (h : splitDegree fp probs lo hi = .ok T) (jd : JD) :
    jd ∈ T.map (·.1) ↔ jd.length = probs.length ∧ lo ≤ edgesOf jd ∧ edgesOf jd < hi := by
  simp only [(split_classes ht h).2.keys, List.mem_flatMap, mem_rangeAB, splitRows_keys,
    mem_validSplits_iff ht]
  exact ⟨fun ⟨k, hk, hl, e⟩ => ⟨hl, e ▸ hk⟩, fun ⟨hl, hr⟩ => ⟨_, hr, hl, rfl⟩⟩

/-- the keys are distinct (the association list is a genuine dictionary) -/
theorem split_keys_nodup (ht : 1 ≤ probs.length) (h : splitDegree fp probs lo hi = .ok T) :
    (T.map (·.1)).Nodup :=
  (split_classes ht h).2.keys_nodup

end Split

section Delta
variable {fp : Nat → Rat} {probs : List Rat} {lo hi target : Nat} {T : Table}

theorem delta_ok_total (ht : 1 ≤ probs.length)
    (h : delta probs.length fp probs lo hi target = .ok T) (h1 : lo ≤ target) (h2 : target < hi) :
    splitTotal probs target ≠ 0 :=
  (delta_classes ht h).1 ((mem_rangeAB lo hi _).2 ⟨h1, h2⟩)

/-- a degree other than the target sits entirely on the pure key `(k, 0, …, 0)` -/
theorem delta_off_target (ht : 1 ≤ probs.length)
    (h : delta probs.length fp probs lo hi target = .ok T)
    {k : Nat} (h1 : lo ≤ k) (h2 : k < hi) (hk : k ≠ target) :
    Dict.get T (k :: List.replicate (probs.length - 1) 0) = some (fp k / ((rangeAB lo hi).map fp).sum)
    ∧ ∀ jd ∈ T.map (·.1), edgesOf jd = k → jd = k :: List.replicate (probs.length - 1) 0 := by
  have c := (delta_classes ht h).2
  have hmem := (mem_rangeAB lo hi k).2 ⟨h1, h2⟩
  refine ⟨c.get hmem (by rw [deltaRows_of_ne hk]; exact List.mem_singleton_self _), fun jd hjd he => ?_⟩
  rw [c.keys, List.mem_flatMap] at hjd
  obtain ⟨k', hk', hjd⟩ := hjd
  obtain ⟨p, hp, rfl⟩ := List.mem_map.1 hjd
  obtain rfl : k' = k := ((c.cls k' hk').edges p hp).symm.trans he
  rw [deltaRows_of_ne hk, List.mem_singleton] at hp
  rw [hp]

/-- the target degree is split exactly as in the split-degree loader -/
theorem delta_on_target (ht : 1 ≤ probs.length)
    (h : delta probs.length fp probs lo hi target = .ok T)
    (h1 : lo ≤ target) (h2 : target < hi) {jd : JD} (hjd : jd ∈ validSplits target probs.length) :
    Dict.get T jd = some (fp target * (splitWeight probs jd / splitTotal probs target)
      / ((rangeAB lo hi).map fp).sum) :=
  (delta_classes ht h).2.get ((mem_rangeAB lo hi _).2 ⟨h1, h2⟩)
    (by rw [deltaRows_target]; exact List.mem_map.2 ⟨jd, hjd, rfl⟩)

/-- class masses, as for the split-degree loader -/
theorem delta_class_mass (ht : 1 ≤ probs.length)
    (h : delta probs.length fp probs lo hi target = .ok T) (k : Nat) (h1 : lo ≤ k) (h2 : k < hi) :
    ((T.filter (fun p => edgesOf p.1 = k)).map (·.2)).sum = fp k / ((rangeAB lo hi).map fp).sum :=
  (delta_classes ht h).2.class_mass ((mem_rangeAB lo hi k).2 ⟨h1, h2⟩)

/-- a target outside the degree range is never resolved: all keys are pure -/
theorem delta_target_outside_range (ht : 1 ≤ probs.length)
    (h : delta probs.length fp probs lo hi target = .ok T) (ho : target < lo ∨ hi ≤ target) (jd : JD) :
    jd ∈ T.map (·.1) ↔ ∃ k, lo ≤ k ∧ k < hi ∧ jd = k :: List.replicate (probs.length - 1) 0 := by
  simp only [(delta_classes ht h).2.keys, List.mem_flatMap, mem_rangeAB, and_assoc]
  refine exists_congr fun k => and_congr_right fun h1 => and_congr_right fun h2 => ?_
  rw [deltaRows_of_ne (by omega)]
  exact List.mem_singleton

theorem delta_sums_one {nTop : Nat} (h : delta nTop fp probs lo hi target = .ok T) (hT : T ≠ []) :
    (T.map (·.2)).sum = 1 := by
  obtain ⟨_, -, h'⟩ := bind_ok h
  exact normalise_sums_one h' hT

end Delta

example : validSplits 5 2 = [[5, 0], [3, 1], [1, 2]] := by decide

example : splitDegree (fun k => (k : Rat)) [1/2, 1/3] 1 4 =
    .ok [([1, 0], 1/6), ([2, 0], 3/13), ([0, 1], 4/39), ([3, 0], 9/26), ([1, 1], 2/13)] := by
  decide +kernel

example : delta 2 (fun k => (k : Rat)) [1/2, 1/3] 1 4 2 =
    .ok [([1, 0], 1/6), ([2, 0], 3/13), ([0, 1], 4/39), ([3, 0], 1/2)] := by
  decide +kernel

example : delta 2 (fun k => (k : Rat)) [1/2, 1/3] 1 4 7 =
    .ok [([1, 0], 1/6), ([2, 0], 1/3), ([3, 0], 1/2)] := by
  decide +kernel

/-- the division-by-zero branch is reachable -/
example : resolve [0, 1] 3 1 [] = .error .zeroDivision := by decide +kernel

example : splitDegree (fun _ => 1) [0, 1] 1 2 = .error .zeroDivision := by decide +kernel

end Gcmpy.SplitDegree
