import GcmpyModel.Lemmas.NetworkIdentity
/-!
# C14, fourth sentence — composition with C13 on a network

"Summing a mixing matrix over its second index gives that topology's excess distribution, which for a
network-derived matrix equals the excess distribution computed from the network's empirical joint degree
distribution."

Proved for one CLEAN topology `i` (`CleanNetwork`, `Properties/C14Matrix.lean`: every vertex has `c · jd(v)[i]`
incident edges of it): both sides are `#{v : jd(v) = a + e_i} · (a[i] + 1) / Σ_v jd(v)[i]` at `a` — the excess
distribution by the formula of C14, the matrix side by counting edge ends, where `c` cancels against
`2E = c · Σ_v jd(v)[i]`.
Stated for lookups (`Dict.get`), under the hypotheses that both functions return; that they do is proved separately.
-/
namespace Gcmpy.Algebra
open Gcmpy Gcmpy.Loaders Gcmpy.Mixing

/-- `Σ_b M(a ++ b)`: the sum of the entries of the matrix whose key has first half `a`
    (the left-hand side of `Gcmpy.Mixing.ejk_row_sums`) -/
def matrixRowSum (M : Table) (T : Nat) (a : JD) : Rat :=
  ((M.filter fun p => decide (p.1.take T = a)).map (·.2)).sum

variable {net : ANet} {T : Nat} {names : List String} {i c : Nat} {name : String}

/-- `Σ_b M(a ++ b) = #{v : jd(v)[i] ≥ 1, jd(v) - e_i = a} · (a[i] + 1) / Σ_v jd(v)[i]`: the matrix entries count
    edge ends, `c · (a[i] + 1)` per such vertex out of `2E = c · Σ_v jd(v)[i]`, and `c` cancels -/
theorem network_row_sum_value (h : CleanNetwork net T names i name c) (a : JD) :
    matrixRowSum (getEjk net (countEdgeTypes net []) i name) T a =
      ((nVert net i a : Rat) * ((a.getD i 0 : Rat) + 1)) / (degSum net i : Rat) := by
  have hE : (2 * (numE net name : Rat)) = (c : Rat) * (degSum net i : Rat) := mod_cast two_E_eq h
  rw [matrixRowSum, ejk_row_sums h.uniform h.annotated, own_ends_count h, hE]
  push_cast
  rw [mul_right_comm, mul_comm _ (c : Rat), mul_div_mul_left _ _ (Nat.cast_ne_zero.2 h.c_pos.ne')]

/-- the excess distribution of the network's empirical joint degree distribution, written out:
    `q_i(a) = #{v : jd(v) = a + e_i} · (a[i] + 1) / Σ_v jd(v)[i]` -/
theorem network_excess_value (h : CleanNetwork net T names i name c) {qs : List Table}
    (hq : excessFromJdd (jddFromNetwork (net.jd.map (·.2))) = some qs) :
    ∃ q, qs[i]? = some q ∧ ∀ a : JD,
      Dict.get q a =
        if a ∈ excessKeys net i then
          some (((nVert net i a : Rat) * ((a.getD i 0 : Rat) + 1)) / (degSum net i : Rat))
        else none := by
  have hu := uniform_jdd h.uniform
  have hn := jdd_from_network_keys_nodup (net.jd.map (·.2))
  have hi : i < qs.length := by rw [excess_length hu hn hq, ← h.names_length]; exact h.index_lt
  have hqi : qs[i]? = some qs[i] := List.getElem?_eq_getElem hi
  refine ⟨qs[i], hqi, fun a => ?_⟩
  rw [(excess_getElem? hu hn hq hqi).2]
  split
  · next ha =>
    obtain ⟨k, hk, hpos, rfl⟩ := (mem_excessKeys_iff net i a).1 ha
    rw [nVert_eq_count net i k hpos, excess, get_exTable_jdd _ i hk hpos, degSum,
      show ((k.modify i (· - 1)).getD i 0 : Rat) + 1 = ((k.getD i 0 : Nat) : Rat) from
        mod_cast getD_modify_pred k i hpos]
  · next ha =>
    rw [Dict.get_eq_none_iff, mem_keys_exTable]
    rintro ⟨k, hk, hpos, rfl⟩
    exact ha ((mem_excessKeys_iff net i _).2 ⟨k, (mem_keys_jdd _ k).1 hk, hpos, rfl⟩)

/-- THE IDENTITY.  Let `P` be the empirical joint degree distribution of a clean network.  Whenever
    `get_joint_excess_distributions(P)` returns, its `i`-th table `q_i` is, entry by entry, the matrix
    `get_ejk(i, name)` of the same network summed over its second index:
    `q_i(a) = Σ_b e_i(a, b)` for every excess tuple `a` of a vertex with `jd[i] ≥ 1`, and neither has any
    other entry. -/
theorem network_consistency (h : CleanNetwork net T names i name c) {qs : List Table}
    (hq : excessFromJdd (jddFromNetwork (net.jd.map (·.2))) = some qs) :
    ∃ q, qs[i]? = some q ∧ ∀ a : JD,
      Dict.get q a =
        if a ∈ excessKeys net i then
          some (matrixRowSum (getEjk net (countEdgeTypes net []) i name) T a)
        else none := by
  obtain ⟨q, hqi, hval⟩ := network_excess_value h hq
  exact ⟨q, hqi, fun a => by rw [hval a, network_row_sum_value h]⟩

/-- `get_excess_joint_distributions(get_ejks(), resolve_excess_degree_keys)`: the `i`-th output is named
    `name` and holds exactly the row sums of the `i`-th matrix, one per pre-computed excess key -/
theorem public_row_sums (h : CleanNetwork net T names i name c) {r : List (String × Table)}
    (hr : excessFromEjk (getEjks net names ⟨[]⟩).2
            (names.zipIdx.map fun (nm, j) => (nm, excessKeys net j)) = some r) :
    ∃ q', r[i]? = some (name, q') ∧ ∀ a : JD,
      Dict.get q' a =
        if a ∈ excessKeys net i then
          some (matrixRowSum (getEjk net (countEdgeTypes net []) i name) T a)
        else none := by
  -- `row_sums_are_excess` gives the table as sums over the listed keys; `excess_keys_cover` says the listed keys
  -- contain both halves of every matrix key, so `row_sums_over_matrix` turns those sums into `matrixRowSum`
  have hname : names[i]'h.index_lt = name :=
    Option.some.inj ((List.getElem?_eq_getElem h.index_lt).symm.trans h.name_at)
  obtain ⟨hlt, hej⟩ := List.getElem?_eq_some_iff.1 (getElem_getEjks net names ⟨[]⟩ h.index_lt)
  rw [hname] at hej
  have hk : Dict.get (names.zipIdx.map fun (nm, j) => (nm, excessKeys net j)) name = some (excessKeys net i) :=
    get_zipIdx_map (fun j => excessKeys net j) h.names_nodup (nj := (name, i))
      (List.mem_zipIdx_iff_getElem?.2 h.name_at)
  have hnd : (excessKeys net i).Nodup := List.nodup_eraseDups _
  have hcover := excess_keys_cover h.annotated i name (clean_positive h)
  obtain ⟨q', hq', hsome, hnone⟩ := row_sums_are_excess hr i hlt (excessKeys net i) (by rw [hej]; exact hk) hnd
  rw [hej] at hq' hsome hnone
  refine ⟨q', hq', fun a => ?_⟩
  split
  · next ha =>
    obtain ⟨e, he, rfl⟩ := exists_end_of_mem_excessKeys h ha
    rw [hsome e.1 ha ⟨e.2, (hcover e he).2, (ejk_keys net _ i name _).2 ⟨e, he, rfl⟩⟩]
    refine congrArg some (row_sums_over_matrix _ _ T e.1 hnd (ejk_keys_nodup net _ i name) (fun k hk => ?_)
      (fun k hk => ?_) ha)
    · obtain ⟨k', hk', _, rfl⟩ := (mem_excessKeys_iff net i k).1 hk
      obtain ⟨p, hp, rfl⟩ := List.mem_map.1 hk'
      exact (length_excess ..).trans (h.uniform p hp)
    · obtain ⟨e', he', rfl⟩ := (ejk_keys net _ i name k).1 hk
      exact ⟨e'.1, (hcover e' he').1, e'.2, (hcover e' he').2, rfl⟩
  · next ha => exact hnone a fun hc => ha hc.1

/-- THE IDENTITY through the public functions: the `i`-th excess distribution computed from the network's
    mixing matrices and the `i`-th excess distribution computed from its empirical joint degree distribution
    are the same table (same keys, same values) -/
theorem network_consistency_public (h : CleanNetwork net T names i name c) {qs : List Table}
    {r : List (String × Table)}
    (hq : excessFromJdd (jddFromNetwork (net.jd.map (·.2))) = some qs)
    (hr : excessFromEjk (getEjks net names ⟨[]⟩).2
            (names.zipIdx.map fun (nm, j) => (nm, excessKeys net j)) = some r) :
    ∃ q q', qs[i]? = some q ∧ r[i]? = some (name, q') ∧ ∀ a : JD, Dict.get q' a = Dict.get q a := by
  obtain ⟨q, hqi, hval⟩ := network_consistency h hq
  obtain ⟨q', hri, hval'⟩ := public_row_sums h hr
  exact ⟨q, q', hqi, hri, fun a => (hval' a).trans (hval a).symm⟩

/-! ## the hypotheses `… = some _` of the identity are satisfiable: both functions return -/

/-- `get_joint_excess_distributions` returns on the empirical distribution of any non-empty network with
    uniform annotations (no clean-network hypothesis needed) -/
theorem network_excess_defined (hU : Mixing.Uniform net T) (hne : net.jd ≠ []) :
    ∃ qs, excessFromJdd (jddFromNetwork (net.jd.map (·.2))) = some qs := by
  refine Option.ne_none_iff_exists'.1 fun hq => ?_
  rcases (excess_error_iff _ T (uniform_jdd hU) (jdd_from_network_keys_nodup _)).1 hq with
    h0 | ⟨j, _, hm, k, hk, hpos⟩
  · obtain ⟨p, hp⟩ := List.exists_mem_of_ne_nil _ hne
    have := (mem_keys_jdd _ _).2 (List.mem_map_of_mem (f := (·.2)) hp)
    rw [h0] at this
    cases this
  · have hk' := (mem_keys_jdd _ k).1 hk
    have h1 : (0 : Rat) < ((((net.jd.map (·.2)).map fun k => k.getD j 0).sum : Nat) : Rat) :=
      Nat.cast_pos.2 (Nat.lt_of_lt_of_le hpos (List.single_le_sum (fun _ _ => Nat.zero_le _) _
        (List.mem_map_of_mem (f := fun k : JD => k.getD j 0) hk')))
    have h2 : (0 : Rat) < (((net.jd.map (·.2)).length : Nat) : Rat) := Nat.cast_pos.2 (List.length_pos_of_mem hk')
    rw [mean_jdd] at hm
    exact (div_pos h1 h2).ne' hm

/-- `get_excess_joint_distributions` returns on the matrices and excess keys of any network when the
    topology names are pairwise distinct -/
theorem public_row_sums_defined (net : ANet) (names : List String) (hn : names.Nodup) :
    ∃ r, excessFromEjk (getEjks net names ⟨[]⟩).2
      (names.zipIdx.map fun (nm, j) => (nm, excessKeys net j)) = some r := by
  rw [excessFromEjk_eq _ _ (by simp [getEjks]), if_neg]
  · exact ⟨_, rfl⟩
  · rintro ⟨ne, hne, hnone⟩
    obtain ⟨nj, hnj, rfl⟩ := List.mem_map.1 hne
    exact Option.some_ne_none _ ((get_zipIdx_map (fun j => excessKeys net j) hn hnj).symm.trans hnone)

/-! ## non-vacuity: a triangle with a pendant 2-clique

Topology 0 (`"tri"`, `c = 2`) is the triangle 0–1–2, topology 1 (`"edge"`, `c = 1`) the 2-clique 2–3. -/

def triPendant : ANet :=
  ⟨[(0, [1, 0]), (1, [1, 0]), (2, [1, 1]), (3, [0, 1])],
   [(0, 1, "tri"), (1, 2, "tri"), (2, 3, "edge"), (0, 2, "tri")]⟩

theorem triPendant_clean_tri : CleanNetwork triPendant 2 ["tri", "edge"] 0 "tri" 2 :=
  ⟨by decide +kernel, by decide +kernel, by decide +kernel, by decide +kernel,
   by unfold Mixing.Uniform; decide +kernel, by unfold Annotated; decide +kernel,
   by decide +kernel, by decide +kernel, by decide +kernel, by decide +kernel⟩

theorem triPendant_clean_edge : CleanNetwork triPendant 2 ["tri", "edge"] 1 "edge" 1 :=
  ⟨by decide +kernel, by decide +kernel, by decide +kernel, by decide +kernel,
   by unfold Mixing.Uniform; decide +kernel, by unfold Annotated; decide +kernel,
   by decide +kernel, by decide +kernel, by decide +kernel, by decide +kernel⟩

example : jddFromNetwork (triPendant.jd.map (·.2)) = [([1, 0], 1 / 2), ([1, 1], 1 / 4), ([0, 1], 1 / 4)] := by
  decide +kernel

example : excessFromJdd (jddFromNetwork (triPendant.jd.map (·.2))) =
    some [[([0, 0], 2 / 3), ([0, 1], 1 / 3)], [([1, 0], 1 / 2), ([0, 0], 1 / 2)]] := by
  decide +kernel

example : (getEjks triPendant ["tri", "edge"] ⟨[]⟩).2 =
    [("tri", [([0, 0, 0, 0], 1 / 3), ([0, 0, 0, 1], 1 / 3), ([0, 1, 0, 0], 1 / 3)]),
     ("edge", [([1, 0, 0, 0], 1 / 2), ([0, 0, 1, 0], 1 / 2)])] := by
  decide +kernel

example : excessFromEjk (getEjks triPendant ["tri", "edge"] ⟨[]⟩).2
      (["tri", "edge"].zipIdx.map fun (nm, j) => (nm, excessKeys triPendant j)) =
    some [("tri", [([0, 0], 2 / 3), ([0, 1], 1 / 3)]), ("edge", [([1, 0], 1 / 2), ([0, 0], 1 / 2)])] := by
  decide +kernel

/-- both sides of the identity, evaluated: row sums of the matrices = excess tables of the empirical
    distribution, for both topologies and every candidate key -/
example : ∀ a ∈ [[0, 0], [0, 1], [1, 0], [1, 1], [2, 0], [0]],
    (matrixRowSum (getEjk triPendant (countEdgeTypes triPendant []) 0 "tri") 2 a,
     matrixRowSum (getEjk triPendant (countEdgeTypes triPendant []) 1 "edge") 2 a) =
    ((Dict.get [([0, 0], (2 / 3 : Rat)), ([0, 1], 1 / 3)] a).getD 0,
     (Dict.get [([1, 0], (1 / 2 : Rat)), ([0, 0], 1 / 2)] a).getD 0) := by
  decide +kernel

/-- the handshake and the vertex counts on this network: `2E = c · Σ_v jd(v)[i]` reads `6 = 2 · 3` and
    `2 = 1 · 2` -/
example : numE triPendant "tri" = 3 ∧ degSum triPendant 0 = 3 ∧ numE triPendant "edge" = 1 ∧
    degSum triPendant 1 = 2 ∧ nVert triPendant 0 [0, 0] = 2 ∧ nVert triPendant 0 [0, 1] = 1 ∧
    nVert triPendant 1 [1, 0] = 1 ∧ nVert triPendant 1 [0, 0] = 1 := by
  decide +kernel

/-- the theorem, instantiated -/
example : ∃ q q', (excessFromJdd (jddFromNetwork (triPendant.jd.map (·.2)))).bind (·[0]?) = some q ∧
    (excessFromEjk (getEjks triPendant ["tri", "edge"] ⟨[]⟩).2
      (["tri", "edge"].zipIdx.map fun (nm, j) => (nm, excessKeys triPendant j))).bind (·[0]?) = some ("tri", q') ∧
    ∀ a : JD, Dict.get q' a = Dict.get q a := by
  have hq : excessFromJdd (jddFromNetwork (triPendant.jd.map (·.2))) =
      some [[([0, 0], 2 / 3), ([0, 1], 1 / 3)], [([1, 0], 1 / 2), ([0, 0], 1 / 2)]] := by decide +kernel
  have hr : excessFromEjk (getEjks triPendant ["tri", "edge"] ⟨[]⟩).2
      (["tri", "edge"].zipIdx.map fun (nm, j) => (nm, excessKeys triPendant j)) =
      some [("tri", [([0, 0], 2 / 3), ([0, 1], 1 / 3)]), ("edge", [([1, 0], 1 / 2), ([0, 0], 1 / 2)])] := by
    decide +kernel
  obtain ⟨q, q', h1, h2, h3⟩ := network_consistency_public triPendant_clean_tri hq hr
  exact ⟨q, q', by rw [hq]; exact h1, by rw [hr]; exact h2, h3⟩

/-- the clean-network hypothesis cannot be dropped: a triangle whose middle vertex is annotated with 2 -/
def dirty : ANet :=
  ⟨[(0, [1]), (1, [2]), (2, [1])], [(0, 1, "t"), (1, 2, "t"), (0, 2, "t")]⟩

/-- in `dirty` vertex 1 is annotated with `jd = 2` but has as many incident edges as vertices 0 and 2
    (annotated with 1): the row sums `{0: 2/3, 1: 1/3}` differ from the excess distribution `{0: 1/2, 1: 1/2}` -/
example : (matrixRowSum (getEjk dirty (countEdgeTypes dirty []) 0 "t") 1 [0],
           matrixRowSum (getEjk dirty (countEdgeTypes dirty []) 0 "t") 1 [1]) = (2 / 3, 1 / 3) ∧
    excessFromJdd (jddFromNetwork (dirty.jd.map (·.2))) = some [[([0], 1 / 2), ([1], 1 / 2)]] := by
  decide +kernel

end Gcmpy.Algebra
