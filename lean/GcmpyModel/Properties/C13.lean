import GcmpyModel.Lemmas.Mixing
/-!
# C13 — mixing-matrix extractors

Values are exact rationals (core `Rat`).  The three extractors are counters over edge ends resp. edges
(`getEjk_eq_tally`, `overallEjk_eq_tally`, `countEdgeTypes_eq` in `Lemmas/Mixing.lean`); the statements below
read off the counter laws of `Lemmas/DictTally.lean`.

Matrix keys are concatenations `a ++ b`; with tuples of one common length `T` the pair `(a, b)` is
recovered from the key, which is what the hypotheses `Uniform`/`Annotated`/`a.length = T` are for.
-/
namespace Gcmpy.Mixing
open Gcmpy Gcmpy.Loaders

variable {net : ANet} {T : Nat}

/-- `count_edge_types` (started from `{}`) counts the edges of every topology; absent topologies are absent -/
theorem count_edge_types (net : ANet) (name : String) :
    Dict.get (countEdgeTypes net []) name = if numE net name = 0 then none else some (numE net name) := by
  rw [countEdgeTypes_eq, Dict.get_tally, List.map_const', List.sum_replicate, nsmul_one, Nat.cast_id,
    ← ite_not (_ = 0)]
  refine Counters.ite_some_congr ?_ fun _ => Nat.zero_add _
  rw [numE, ← Ne, ← Nat.pos_iff_ne_zero, List.length_pos_iff_exists_mem, List.mem_map]
  exact ⟨fun h => (h.resolve_right List.not_mem_nil).imp fun e he =>
      List.mem_filter.2 ⟨he.1, decide_eq_true he.2⟩,
    fun ⟨e, he⟩ => Or.inl ⟨e, (List.mem_filter.1 he).1, of_decide_eq_true (List.mem_filter.1 he).2⟩⟩

theorem getD_countEdgeTypes (net : ANet) (name : String) :
    (Dict.get (countEdgeTypes net []) name).getD 0 = numE net name := by
  rw [count_edge_types]
  split
  · next h => exact h.symm
  · rfl

theorem ends_length (net : ANet) (i : Nat) (name : String) : (ends net i name).length = 2 * numE net name := by
  rw [ends_eq_sym, length_sym, List.length_map, numE]

/-- entry `(a, b)` is exactly the fraction of that topology's edge ends whose own vertex has excess tuple
`a` and whose partner has excess tuple `b`; keys that are not such a pair are absent.
(`b.length = T` is not needed: a `b` of another length gives `none` on both sides.) -/
theorem ejk_value (hU : Uniform net T) (hA : Annotated net) (i : Nat) (name : String) (a b : JD)
    (ha : a.length = T) :
    Dict.get (getEjk net (countEdgeTypes net []) i name) (a ++ b) =
      if (a, b) ∈ ends net i name then
        some ((((ends net i name).count (a, b) : Nat) : Rat) / (2 * (numE net name : Rat)))
      else none := by
  rw [getEjk_eq_tally, getD_countEdgeTypes]
  -- with first halves of one length the pair is recovered from the concatenated key
  refine (Dict.get_tally_count (fun q : JD × JD => q.1 ++ q.2) _ _ (a, b) fun q hq e => ?_).trans ?_
  · exact Prod.ext_iff.2 (List.append_inj e (((lengths_of_mem_ends hU hA i name q hq).1).trans ha.symm))
  · refine Counters.ite_some_congr Iff.rfl fun _ => ?_
    rw [nsmul_eq_mul, div_div, mul_one_div]

theorem ejk_symmetric (hU : Uniform net T) (hA : Annotated net) (i : Nat) (name : String) (a b : JD)
    (ha : a.length = T) (hb : b.length = T) :
    Dict.get (getEjk net (countEdgeTypes net []) i name) (a ++ b) =
      Dict.get (getEjk net (countEdgeTypes net []) i name) (b ++ a) := by
  rw [ejk_value hU hA i name a b ha, ejk_value hU hA i name b a hb, ends_eq_sym, count_sym_swap]
  exact Counters.ite_some_congr (mem_sym_swap ..) fun _ => rfl

/-- the matrix of a topology that has at least one edge sums to one (no hypothesis on the annotation) -/
theorem ejk_sums_one (net : ANet) (i : Nat) (name : String) (hE : 0 < numE net name) :
    ((getEjk net (countEdgeTypes net []) i name).map (·.2)).sum = 1 := by
  rw [getEjk_eq_tally, Counters.sum_tally_count, getD_countEdgeTypes, ends_length, nsmul_eq_mul, Nat.cast_mul,
    Nat.cast_ofNat, div_div, mul_one_div]
  exact div_self (mul_ne_zero two_ne_zero (Nat.cast_ne_zero.2 hE.ne'))

/-- row sum: the entries whose key starts with `a` (`Σ_b ejk[(a, b)]`) add up to the fraction of that
topology's edge ends whose own vertex has excess tuple `a` -/
theorem ejk_row_sums (hU : Uniform net T) (hA : Annotated net) (i : Nat) (name : String) (a : JD) :
    (((getEjk net (countEdgeTypes net []) i name).filter (fun p => p.1.take T = a)).map (·.2)).sum =
      ((((ends net i name).filter (fun q => q.1 = a)).length : Nat) : Rat) / (2 * (numE net name : Rat)) := by
  rw [getEjk_eq_tally, getD_countEdgeTypes]
  refine (Counters.sum_filter_tally_count (fun k : JD => decide (k.take T = a)) _ _ _).trans ?_
  rw [← List.countP_eq_length_filter, nsmul_eq_mul,
    List.countP_congr (q := fun q => decide (q.1 = a)) fun q hq => by
      rw [List.take_left' (lengths_of_mem_ends hU hA i name q hq).1], div_div, mul_one_div]

/-- the association list modelling the matrix has one entry per key (whatever the counter) -/
theorem ejk_keys_nodup (net : ANet) (ne : List (String × Nat)) (i : Nat) (name : String) :
    (Dict.keys (getEjk net ne i name)).Nodup := by
  rw [getEjk_eq_tally]; exact Dict.nodup_keys_tally _ _ List.nodup_nil

/-- the keys of the matrix are exactly the concatenated edge ends (whatever the counter and annotation) -/
theorem ejk_keys (net : ANet) (ne : List (String × Nat)) (i : Nat) (name : String) (k : JD) :
    k ∈ Dict.keys (getEjk net ne i name) ↔ ∃ q ∈ ends net i name, k = q.1 ++ q.2 := by
  rw [getEjk_eq_tally, Dict.mem_keys_tally, List.mem_map]
  exact (or_iff_left List.not_mem_nil).trans (exists_congr fun q => and_congr_right fun _ => eq_comm)

/-- `get_ejks` does not depend on the extractor state it is called in -/
theorem get_ejks_state_independent (net : ANet) (names : List String) (s s' : Ext) :
    getEjks net names s = getEjks net names s' := rfl

theorem mem_callsFrom (net : ANet) (names : List String) (n : Nat) (s : Ext) :
    ∀ m ∈ callsFrom net names n s, m = (getEjks net names ⟨[]⟩).2 := by
  induction n generalizing s with
  | zero => exact fun _ h => nomatch h
  | succ n ih => exact List.forall_mem_cons.2 ⟨rfl, ih _⟩

/-- every one of any number of successive calls on one extractor returns the matrices of the first call -/
theorem get_ejks_repeatable (net : ANet) (names : List String) (n : Nat) :
    ∀ m ∈ callsFrom net names n ⟨[]⟩, m = (getEjks net names ⟨[]⟩).2 :=
  mem_callsFrom net names n ⟨[]⟩

/-- (and `callsFrom … n` does consist of `n` results) -/
theorem calls_length (net : ANet) (names : List String) (n : Nat) (s : Ext) :
    (callsFrom net names n s).length = n := by
  induction n generalizing s with
  | zero => rfl
  | succ n ih => exact congrArg Nat.succ (ih _)

def tiny : ANet := ⟨[(0, [1]), (1, [1])], [(0, 1, "t")]⟩

/-- without the reset the second call on the same extractor divides by an edge count of 2 instead of 1:
its matrix sums to `1/2` (the first call's matrix sums to `1`) -/
theorem second_call_halves :
    ((getEjksUnrepaired tiny ["t"] ⟨[]⟩).2.map fun m => (m.2.map (·.2)).sum) = [1] ∧
    ((getEjksUnrepaired tiny ["t"] (getEjksUnrepaired tiny ["t"] ⟨[]⟩).1).2.map
        fun m => (m.2.map (·.2)).sum) = [1 / 2] ∧
    (getEjksUnrepaired tiny ["t"] (getEjksUnrepaired tiny ["t"] ⟨[]⟩).1).2 = [("t", [([0, 0], 1 / 2)])] := by
  decide +kernel

/-- the repaired extractor on the same network: both calls return the matrix `{(0,0): 1}` -/
example : callsFrom tiny ["t"] 2 ⟨[]⟩ = [[("t", [([0, 0], 1)])], [("t", [([0, 0], 1)])]] := by
  decide +kernel

/-- under annotation consistency (both end points of every edge of topology `name` have a positive
`i`-th joint-degree component) both halves of every key of `get_ejk(i, name)` are listed in
`resolve_excess_degree_keys` for index `i` -/
theorem excess_keys_cover (hA : Annotated net) (i : Nat) (name : String)
    (hC : ∀ e ∈ net.edges, e.2.2 = name →
      1 ≤ (jdOf net e.1).getD i 0 ∧ 1 ≤ (jdOf net e.2.1).getD i 0) :
    ∀ q ∈ ends net i name, q.1 ∈ excessKeys net i ∧ q.2 ∈ excessKeys net i := by
  have key {v : Nat} (hv : (Dict.get net.jd v).isSome) (hp : 1 ≤ (jdOf net v).getD i 0) :
      excess (jdOf net v) i ∈ excessKeys net i :=
    List.mem_eraseDups.2 (List.mem_map.2 ⟨_, List.mem_filter.2
      ⟨List.mem_map.2 ⟨_, jdOf_mem hv, rfl⟩, decide_eq_true hp⟩, rfl⟩)
  exact forall_mem_ends fun e he hn => ⟨key (hA e he).1 (hC e he hn).1, key (hA e he).2 (hC e he hn).2⟩

/-! ## overall-degree variant (`JointExcessDegree.get_ejk`)

No loop-freeness is needed for these statements about the model (a self-loop `(u, u)` contributes the end
`(deg u - 1, deg u - 1)` twice, as the Python code does). -/

theorem overall_ends_length (edges : List (Nat × Nat)) : (oEnds edges).length = 2 * edges.length := by
  rw [oEnds_eq_sym, length_sym, List.length_map]

theorem overall_value (edges : List (Nat × Nat)) (j k : Nat) :
    Dict.get (overallEjk edges) [j, k] =
      if (j, k) ∈ oEnds edges then
        some ((((oEnds edges).count (j, k) : Nat) : Rat) / (2 * (edges.length : Rat)))
      else none := by
  rw [overallEjk_eq_tally]
  refine (Dict.get_tally_count (fun q : Nat × Nat => [q.1, q.2]) _ _ (j, k) fun q _ e => ?_).trans ?_
  · exact Prod.ext (List.cons.inj e).1 (List.cons.inj (List.cons.inj e).2).1
  · refine Counters.ite_some_congr Iff.rfl fun _ => ?_
    rw [nsmul_eq_mul, div_div, mul_one_div]

theorem overall_symmetric (edges : List (Nat × Nat)) (j k : Nat) :
    Dict.get (overallEjk edges) [j, k] = Dict.get (overallEjk edges) [k, j] := by
  rw [overall_value, overall_value, oEnds_eq_sym, count_sym_swap]
  exact Counters.ite_some_congr (mem_sym_swap ..) fun _ => rfl

theorem overall_sums_one (edges : List (Nat × Nat)) (hE : 0 < edges.length) :
    ((overallEjk edges).map (·.2)).sum = 1 := by
  rw [overallEjk_eq_tally, Counters.sum_tally_count, overall_ends_length, nsmul_eq_mul, Nat.cast_mul, Nat.cast_ofNat,
    div_div, mul_one_div]
  exact div_self (mul_ne_zero two_ne_zero (Nat.cast_ne_zero.2 hE.ne'))

theorem overall_keys_nodup (edges : List (Nat × Nat)) : (Dict.keys (overallEjk edges)).Nodup := by
  rw [overallEjk_eq_tally]; exact Dict.nodup_keys_tally _ _ List.nodup_nil

theorem split_keys_spec (ejk : Table) (h : JD) :
    h ∈ splitKeys ejk ↔
      ∃ p ∈ ejk, h = p.1.take (p.1.length / 2) ∨ h = p.1.drop (p.1.length / 2) := by
  rw [splitKeys, List.mem_eraseDups, List.mem_flatMap]
  exact exists_congr fun p => and_congr_right fun _ => List.mem_pair

/-! ## non-vacuity: a 4-vertex network with two topologies

Topology "a" is the triangle 0–1–2 (its edge 0–2 joins two vertices of equal excess tuple: a self-paired
class), topology "b" joins vertex 3 to 0 and 2. -/

def net4 : ANet :=
  ⟨[(0, [2, 1]), (1, [2, 0]), (2, [2, 1]), (3, [0, 2])],
   [(0, 1, "a"), (2, 3, "b"), (1, 2, "a"), (0, 3, "b"), (0, 2, "a")]⟩

example : Uniform net4 2 := by unfold Uniform; decide +kernel
example : Annotated net4 := by unfold Annotated; decide +kernel
example : ∀ e ∈ net4.edges, e.2.2 = "a" →
    1 ≤ (jdOf net4 e.1).getD 0 0 ∧ 1 ≤ (jdOf net4 e.2.1).getD 0 0 := by decide +kernel
example : ∀ e ∈ net4.edges, e.2.2 = "b" →
    1 ≤ (jdOf net4 e.1).getD 1 0 ∧ 1 ≤ (jdOf net4 e.2.1).getD 1 0 := by decide +kernel

example : numE net4 "a" = 3 ∧ numE net4 "b" = 2 ∧ numE net4 "c" = 0 := by decide +kernel

example : ends net4 0 "a" =
    [([1, 1], [1, 0]), ([1, 0], [1, 1]), ([1, 0], [1, 1]), ([1, 1], [1, 0]), ([1, 1], [1, 1]), ([1, 1], [1, 1])] := by
  decide +kernel

example : (getEjks net4 ["a", "b"] ⟨[]⟩).1.numEdges = [("a", 3), ("b", 2)] ∧
    (getEjks net4 ["a", "b"] ⟨[]⟩).2 =
     [("a", [([1, 1, 1, 0], 1 / 3), ([1, 0, 1, 1], 1 / 3), ([1, 1, 1, 1], 1 / 3)]),
      ("b", [([2, 0, 0, 1], 1 / 2), ([0, 1, 2, 0], 1 / 2)])] := by
  decide +kernel

example : excessKeys net4 0 = [[1, 1], [1, 0]] ∧ excessKeys net4 1 = [[2, 0], [0, 1]] := by decide +kernel

example : splitKeys (getEjk net4 (countEdgeTypes net4 []) 0 "a") = [[1, 1], [1, 0]] := by decide +kernel

/-- overall-degree variant on the path 0–1–2 -/
example : overallEjk [(0, 1), (1, 2)] = [([0, 1], 1 / 2), ([1, 0], 1 / 2)] := by decide +kernel

example : oEnds [(0, 1), (1, 2)] = [(0, 1), (1, 0), (1, 0), (0, 1)] := by decide +kernel

end Gcmpy.Mixing
