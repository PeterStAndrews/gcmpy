import GcmpyModel.Lemmas.MCMC
/-!
# C11 — one accepted step of the MCMC rewiring keeps the network a GCM network of the same joint degrees

Model: `Model/MCMC.lean` (`applySwap` = the application loop of `rewire` on the proposals that `swap_condition`
stored, `suitable` = `is_edge_choice_suitable`); the hypotheses of a step are `Ok` (`Lemmas/MCMC.lean`).

The property says that rewiring returns a graph on the same annotated vertices, with as many edges and at every vertex
the same number of edges of each topology, without self-loop or duplicate edge, in which the edges of one motif id still
form the motif, after any number of accepted swaps.  Here: one step, and histories `Steps` of steps; the loop of
`rewire()` itself is `Properties/C11Loop.lean`.  Motif shape: the code AS WRITTEN exchanges the motif ids of the new
edges (known finding, `known_finding_ids_exchanged`); the INTENDED assignment `applySwapFixed` maps every motif onto an
isomorphic copy (`fixed_step_preserves_shape`).

The constructor defaults (`search_limit = 25`, `convergence_limit = 10·|E|`) are not a statement about the model; the
harness checks them.
-/
namespace Gcmpy.MCMC
open Gcmpy Gcmpy.Graph Gcmpy.Loaders

variable {G G' : Net} {u0 v0 : Nat} {e0s e1s : List Edge}

/-- under `suitable`, the pairing succeeds and no "edge already present" error is raised -/
theorem suitable_applies (h : Ok G u0 v0 e0s e1s) : ∃ G', applySwap G u0 v0 e0s e1s = some G' :=
  let ⟨_, _, _, _, _, _, he, _⟩ := applyB_shape false h; ⟨_, he⟩

/-- vertex set and joint-degree annotations are untouched -/
theorem nodes_preserved (h : Ok G u0 v0 e0s e1s) (ha : applySwap G u0 v0 e0s e1s = some G') : G'.jd = G.jd :=
  (applyB_preserves false h ha).2.1

/-- the result is again a simple graph with normalised, duplicate-free keys: no self-loop, no two proposals
    coincide, none coincides with an existing edge -/
theorem wf_preserved (h : Ok G u0 v0 e0s e1s) (ha : applySwap G u0 v0 e0s e1s = some G') : WF G' :=
  (applyB_preserves false h ha).1

theorem no_self_loop_created (h : Ok G u0 v0 e0s e1s) (ha : applySwap G u0 v0 e0s e1s = some G') :
    ∀ p ∈ G'.edges, p.1.1 ≠ p.1.2 := (wf_preserved h ha).2.2

/-- why no self-loop is created: the incoming vertex is not a vertex of the motif it joins, while the far end of every
    corner edge is -/
theorem incoming_vertex_outside_motif (h : Ok G u0 v0 e0s e1s) :
    ∃ A B, (u0 ∉ motifVertices G v0 B ∧ ∀ e ∈ e1s, e.2 ∈ motifVertices G v0 B) ∧
           (v0 ∉ motifVertices G u0 A ∧ ∀ e ∈ e0s, e.2 ∈ motifVertices G u0 A) := by
  obtain ⟨A, B, F⟩ := h.facts
  exact ⟨A, B, ⟨F.right.out, fun _ he => F.right.far_mem he⟩, ⟨F.left.out, fun _ he => F.left.far_mem he⟩⟩

/-- the number of edges is preserved (the check at the end of the loop body of `rewire` never fires) -/
theorem edge_count_preserved (h : Ok G u0 v0 e0s e1s) (ha : applySwap G u0 v0 e0s e1s = some G') :
    G'.edges.length = G.edges.length :=
  (applyB_preserves false h ha).2.2.1

theorem topology_degrees_preserved (h : Ok G u0 v0 e0s e1s) (ha : applySwap G u0 v0 e0s e1s = some G') :
    ∀ v t, topDegree G' v t = topDegree G v t :=
  (applyB_preserves false h ha).2.2.2

/-- the same four conclusions for the intended attribute assignment -/
theorem fixed_step_invariants (h : Ok G u0 v0 e0s e1s) (ha : applySwapFixed G u0 v0 e0s e1s = some G') :
    WF G' ∧ G'.jd = G.jd ∧ G'.edges.length = G.edges.length ∧ ∀ v t, topDegree G' v t = topDegree G v t :=
  applyB_preserves true h ha

/-- with the INTENDED assignment (`applySwapFixed`) a step maps every motif onto an isomorphic copy:
    the keys carrying the id `A` of the left corner afterwards are exactly the images `{σ a, σ b}` of the edges
    `{a, b}` that carried `A` before, where `σ` replaces `u0` by `v0`; symmetrically for `B` with `v0 ↦ u0`;
    the edge set of every other id is unchanged; and `σ` is injective on the vertices of the motif because the
    incoming vertex is not one of them (a triangle stays a triangle on three distinct vertices) -/
theorem fixed_step_preserves_shape (h : Ok G u0 v0 e0s e1s) (ha : applySwapFixed G u0 v0 e0s e1s = some G') :
    ∃ A B, (∀ e ∈ e0s, omid G e = some A) ∧ (∀ e ∈ e1s, omid G e = some B) ∧ A ≠ B ∧
      (∀ k, carries G' k A ↔ ∃ a b, omid G (a, b) = some A ∧ k = normE (subst1 u0 v0 a, subst1 u0 v0 b)) ∧
      (∀ k, carries G' k B ↔ ∃ a b, omid G (a, b) = some B ∧ k = normE (subst1 v0 u0 a, subst1 v0 u0 b)) ∧
      (∀ m, m ≠ A → m ≠ B → ∀ k, carries G' k m ↔ carries G k m) ∧
      (∀ x ∈ motifVertices G u0 A, ∀ y ∈ motifVertices G u0 A, subst1 u0 v0 x = subst1 u0 v0 y → x = y) ∧
      (∀ x ∈ motifVertices G v0 B, ∀ y ∈ motifVertices G v0 B, subst1 v0 u0 x = subst1 v0 u0 y → x = y) := by
  obtain ⟨A, B, ps, F, P, -, he, -⟩ := applyB_shape true h
  -- `src true p` is `p.2`, `src' true p` is `p.1`
  obtain rfl : G' = { G with edges := afterEdges G u0 v0 e0s e1s (fun p => attrD G p.2) (fun p => attrD G p.1) ps } :=
    Option.some.inj (ha.symm.trans he)
  have hAB : A ≠ B := F.ne
  refine ⟨A, B, fun e he => F.left.omid he, fun e he => F.right.omid he, hAB, ?_, ?_, ?_, ?_, ?_⟩
  · intro k
    rw [F.carries_afterFixed P k A,
      ← shape_side F.left (fun k => mem_removed_iff (e0s := e0s) (e1s := e1s))
        (fun e he hc => hAB (carries_unique hc (F.right.carries_key he))) k]
    simp only [hAB, false_and, false_or, true_and]
  · intro k
    rw [F.carries_afterFixed P k B,
      ← shape_side F.right (fun k => (mem_removed_iff (e0s := e0s) (e1s := e1s)).trans Or.comm)
        (fun e he hc => hAB (carries_unique (F.left.carries_key he) hc)) k]
    simp only [hAB.symm, false_and, or_false, true_and]
  · intro m hmA hmB k
    rw [F.carries_afterFixed P k m]
    simp only [hmA, hmB, false_and, or_false]
    constructor
    · exact fun h => h.1
    · intro hc
      refine ⟨hc, ?_⟩
      rw [mem_removed_iff]
      rintro (⟨e, he, rfl⟩ | ⟨e, he, rfl⟩)
      · exact hmA (carries_unique hc (F.left.carries_key he))
      · exact hmB (carries_unique hc (F.right.carries_key he))
  · intro x hx y hy hxy
    exact subst1_injOn u0 v0 (fun hv => F.left.out (hv ▸ hx)) (fun hv => F.left.out (hv ▸ hy)) hxy
  · intro x hx y hy hxy
    exact subst1_injOn v0 u0 (fun hv => F.right.out (hv ▸ hx)) (fun hv => F.right.out (hv ▸ hy)) hxy

/-- histories of the chain: reflexive–transitive closure of "a proposal with real, suitable corners was
    evaluated with some uniform draw `r`; it was accepted and applied, or rejected (the state stutters)" -/
inductive Steps (names : List String) (target : Target) : Net → Net → Prop
  | refl (G : Net) : Steps names target G G
  | step {G G' G'' : Net} (u0 v0 : Nat) (e0s e1s : List Edge) (r : Rat) :
      Steps names target G G' → Ok G' u0 v0 e0s e1s →
      (stepNet G' names target u0 v0 e0s e1s r).2 = some G'' → Steps names target G G''

/-- after ANY number of accepted swaps the network is a simple graph on the same annotated vertices with the
    same number of edges and the same topology degrees at every vertex -/
theorem steps_invariant {names : List String} {target : Target} (hWF : WF G) (hs : Steps names target G G') :
    WF G' ∧ G'.jd = G.jd ∧ G'.edges.length = G.edges.length ∧ ∀ v t, topDegree G' v t = topDegree G v t := by
  show Preserves G G'
  induction hs with
  | refl => exact .refl hWF
  | step u0 v0 e0s e1s r _ hok hstep ih =>
    rcases stepNet_cases hstep with rfl | ha
    · exact ih
    · exact ih.trans (applyB_preserves false hok ha)

/-! ## non-vacuity: two triangles -/

/-- triangles `{0,1,2}` (motif id 0) and `{3,4,5}` (motif id 1), one topology `"t"` -/
def twoTriangles : Net :=
  { jd := [(0, [2]), (1, [2]), (2, [2]), (3, [2]), (4, [2]), (5, [2])],
    edges := [((0, 1), ⟨"t", 0⟩), ((0, 2), ⟨"t", 0⟩), ((1, 2), ⟨"t", 0⟩),
              ((3, 4), ⟨"t", 1⟩), ((3, 5), ⟨"t", 1⟩), ((4, 5), ⟨"t", 1⟩)] }

theorem twoTriangles_ok : Ok twoTriangles 0 3 [(0, 1), (0, 2)] [(3, 4), (3, 5)] :=
  ⟨by unfold WF; decide +kernel,
   ⟨by decide, by decide, 0, by decide +kernel, by decide +kernel⟩,
   ⟨by decide, by decide, 1, by decide +kernel, by decide +kernel⟩,
   by decide +kernel⟩

example : WF twoTriangles := twoTriangles_ok.wf
example : IsCorner twoTriangles 0 [(0, 1), (0, 2)] := twoTriangles_ok.c0
example : IsCorner twoTriangles 3 [(3, 4), (3, 5)] := twoTriangles_ok.c1
example : suitable twoTriangles 0 3 [(0, 1), (0, 2)] [(3, 4), (3, 5)] = true := twoTriangles_ok.suit

/-- KNOWN FINDING, the code as written: after the swap of the corners at `0` and `3`, motif id `0` sits on
    the edges `{(1,2), (0,5), (0,4)}` — a path, not a triangle (the ids of the new edges are exchanged) -/
theorem known_finding_ids_exchanged :
    (applySwap twoTriangles 0 3 [(0, 1), (0, 2)] [(3, 4), (3, 5)]).map
      (fun G' => (G'.edges.filter fun p => p.2.mid = 0).map (·.1)) = some [(1, 2), (0, 5), (0, 4)] := by
  decide +kernel

/-- with the intended assignment the same swap turns triangle `{0,1,2}` into triangle `{3,1,2}` -/
theorem fixed_keeps_triangle :
    (applySwapFixed twoTriangles 0 3 [(0, 1), (0, 2)] [(3, 4), (3, 5)]).map
      (fun G' => (G'.edges.filter fun p => p.2.mid = 0).map (·.1)) = some [(1, 2), (1, 3), (2, 3)] := by
  decide +kernel

end Gcmpy.MCMC
