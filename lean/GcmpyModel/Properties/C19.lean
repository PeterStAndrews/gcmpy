import GcmpyModel.Lemmas.Distributions
/-!
# C19 — the four degree distributions compute the named laws

Real-number model (definitions in `Lemmas/Distributions.lean`):

* `expo a k   = (1 - exp(-a)) * exp(-a*k)`        (`exponential.py`)
* `pois m k   = exp(-m) * m^k / k!`               (`poisson.py`)
* `zterm α k  = 1 / k^α`,  `lterm α z k = z^k / k^α` : the terms of the two `while 1` loops of
  `power_law.py` / `scale_free_cut_off.py`; `StopsAt term tol K` says the loop leaves at index `K`
  (first `k ≥ 1` with `term k < tol`, that term included) and `partialSum term K` is what it returns.
  All terms are non-negative, so the code's `abs(term)` is `term`.

The statements are about these real functions; floating-point rounding and `numpy.exp` are outside the model.
-/
open Finset Filter Topology

namespace Gcmpy.Distributions

theorem expo_nonneg {a : ℝ} {k : ℕ} (ha : 0 < a) : 0 ≤ expo a k := by
  unfold expo
  have h : Real.exp (-a) < 1 := Real.exp_lt_one_iff.2 (by linarith)
  have h1 : 0 ≤ 1 - Real.exp (-a) := by linarith
  positivity

theorem expo_hasSum_one {a : ℝ} (ha : 0 < a) : HasSum (fun k : ℕ => expo a k) 1 := by
  have h0 : 0 ≤ Real.exp (-a) := (Real.exp_pos _).le
  have h1 : Real.exp (-a) < 1 := Real.exp_lt_one_iff.2 (by linarith)
  have h := (hasSum_geometric_of_lt_one h0 h1).mul_left (1 - Real.exp (-a))
  rw [mul_inv_cancel₀ (by linarith)] at h
  simpa only [expo_eq] using h

theorem pois_nonneg {m : ℝ} {k : ℕ} (hm : 0 < m) : 0 ≤ pois m k := by
  unfold pois; positivity

theorem pois_hasSum_one {m : ℝ} (_hm : 0 < m) : HasSum (fun k : ℕ => pois m k) 1 := by
  have h := (NormedSpace.expSeries_div_hasSum_exp (𝔸 := ℝ) m).mul_left (Real.exp (-m))
  rw [← Real.exp_eq_exp_ℝ, ← Real.exp_add, neg_add_cancel, Real.exp_zero] at h
  simpa only [pois, mul_div_assoc] using h

theorem zeta_loop_terminates {α tol : ℝ} (hα : 0 < α) (htol : 0 < tol) :
    ∃ K, StopsAt (zterm α) tol K :=
  stopsAt_of_tendsto (tendsto_zterm hα) htol

theorem polylog_loop_terminates {α z tol : ℝ} (hα : 0 ≤ α) (hz0 : 0 ≤ z) (hz1 : z < 1)
    (htol : 0 < tol) : ∃ K, StopsAt (lterm α z) tol K :=
  stopsAt_of_tendsto (tendsto_lterm hα hz0 hz1) htol

/-- for `α ≤ 0` the zeta loop never stops once `tol ≤ 1` (so the documented range matters) -/
theorem zeta_loop_diverges {α tol : ℝ} (hα : α ≤ 0) (htol : tol ≤ 1) :
    ¬ ∃ K, StopsAt (zterm α) tol K := by
  rintro ⟨K, hK1, hlt, -⟩
  have hK : (1 : ℝ) ≤ K := by exact_mod_cast hK1
  exact (htol.trans (one_le_one_div (Real.rpow_pos_of_pos (by linarith) _)
    (Real.rpow_le_one_of_one_le_of_nonpos hK hα))).not_gt hlt

/-- the stopping index is unique: `StopsAt` determines the loop's result (`StopsAt.unique` as a plain name) -/
theorem stopsAt_unique {term : ℕ → ℝ} {tol : ℝ} {K K' : ℕ} (h : StopsAt term tol K)
    (h' : StopsAt term tol K') : K = K' := h.unique h'

/-! ## `power_law(alpha)` is the zeta law up to a relative error `K * tol` -/

theorem zeta_tail_bound_lt {α tol : ℝ} {K : ℕ} (hα : 2 ≤ α) (hK : StopsAt (zterm α) tol K) :
    (∑' k : ℕ, zterm α (k + 1)) - partialSum (zterm α) K < K * tol := by
  have hKpos : (0 : ℝ) < K := by exact_mod_cast hK.1
  rw [tail_eq (summable_zterm_succ (by linarith))]
  exact lt_of_le_of_lt (zeta_tail_le hα hK.1) (mul_lt_mul_of_pos_left hK.2.1 hKpos)

theorem zeta_partialSum_ge_one {α : ℝ} {K : ℕ} (hK : 1 ≤ K) : 1 ≤ partialSum (zterm α) K := by
  have := partialSum_ge_first (zterm_nonneg α) hK
  rwa [zterm_one] at this

/-- the zeta loop's result as a truncation: `1 ≤ C < ζ(α) ≤ C + K·tol` -/
theorem zeta_truncates {α tol : ℝ} {K : ℕ} (hα : 2 ≤ α) (hK : StopsAt (zterm α) tol K) :
    Truncates (zterm α) K 1 (K * tol) :=
  ⟨zterm_nonneg α, one_pos, zeta_partialSum_ge_one hK.1,
    tail_eq (summable_zterm_succ (by linarith)) K ▸ zeta_tail_pos (by linarith) K, (zeta_tail_bound_lt hα hK).le⟩

/-- the zeta loop's result `C` satisfies `0 < ζ(α) - C ≤ K·tol` for `α ≥ 2` -/
theorem zeta_tail_bound {α tol : ℝ} {K : ℕ} (hα : 2 ≤ α) (_htol : 0 < tol)
    (hK : StopsAt (zterm α) tol K) :
    0 < (∑' k : ℕ, zterm α (k + 1)) - partialSum (zterm α) K ∧
      (∑' k : ℕ, zterm α (k + 1)) - partialSum (zterm α) K ≤ K * tol :=
  ⟨(zeta_truncates hα hK).lt, (zeta_truncates hα hK).tail⟩

/-- `pow(k, -alpha)` is the loop's `k`-th term -/
theorem powerLaw_numerator (α : ℝ) (k : ℕ) : (k : ℝ) ^ (-α) = zterm α k := by
  unfold zterm
  rw [Real.rpow_neg (Nat.cast_nonneg k), one_div]

theorem powerLaw_nonneg (α : ℝ) (K k : ℕ) : 0 ≤ zterm α k / partialSum (zterm α) K :=
  div_nonneg (zterm_nonneg α k) (Finset.sum_nonneg fun i _ => zterm_nonneg α i)

theorem powerLaw_close {α tol : ℝ} {K : ℕ} (hα : 2 ≤ α) (htol : 0 < tol)
    (hK : StopsAt (zterm α) tol K) (k : ℕ) :
    zterm α k / (∑' i : ℕ, zterm α (i + 1)) ≤ zterm α k / partialSum (zterm α) K ∧
      zterm α k / partialSum (zterm α) K - zterm α k / (∑' i : ℕ, zterm α (i + 1))
        ≤ (K * tol) * (zterm α k / (∑' i : ℕ, zterm α (i + 1))) := by
  simpa only [div_one] using (zeta_truncates hα hK).close k

theorem powerLaw_sum {α tol : ℝ} {K : ℕ} (hα : 2 ≤ α) (htol : 0 < tol)
    (hK : StopsAt (zterm α) tol K) :
    1 ≤ ∑' k : ℕ, zterm α (k + 1) / partialSum (zterm α) K ∧
      ∑' k : ℕ, zterm α (k + 1) / partialSum (zterm α) K ≤ 1 + K * tol := by
  simpa only [div_one] using (zeta_truncates hα hK).sum

/-- the code's values are summable (so `powerLaw_sum` is about a genuine sum) -/
theorem powerLaw_summable {α : ℝ} (hα : 2 ≤ α) (K : ℕ) :
    Summable (fun k : ℕ => zterm α (k + 1) / partialSum (zterm α) K) :=
  (summable_zterm_succ (by linarith)).div_const _

/-! ## `scale_free_cut_off(alpha, kappa)` is the polylogarithm law at `z = exp(-1/kappa)` up to a relative error
`tol / (1 - z)` -/

theorem polylog_tail_bound {α z tol : ℝ} {K : ℕ} (hα : 0 ≤ α) (hz0 : 0 < z) (hz1 : z < 1)
    (hK : StopsAt (lterm α z) tol K) :
    0 < (∑' k : ℕ, lterm α z (k + 1)) - partialSum (lterm α z) K ∧
      (∑' k : ℕ, lterm α z (k + 1)) - partialSum (lterm α z) K ≤ tol * z / (1 - z) := by
  rw [tail_eq (summable_lterm_succ hα hz0.le hz1)]
  refine ⟨polylog_tail_pos hα hz0 hz1 K, (polylog_tail_le hα hz0.le hz1 hK.1).trans ?_⟩
  have h1z : 0 < 1 - z := by linarith
  rw [mul_div_assoc]
  exact mul_le_mul_of_nonneg_right hK.2.1.le (div_nonneg hz0.le h1z.le)

theorem polylog_partialSum_ge {α z : ℝ} {K : ℕ} (hz0 : 0 ≤ z) (hK : 1 ≤ K) :
    z ≤ partialSum (lterm α z) K := by
  have := partialSum_ge_first (lterm_nonneg α hz0) hK
  rwa [lterm_one] at this

/-- the polylogarithm loop's result as a truncation: `z ≤ C < Li_α(z) ≤ C + z · tol/(1-z)` -/
theorem polylog_truncates {α z tol : ℝ} {K : ℕ} (hα : 0 ≤ α) (hz0 : 0 < z) (hz1 : z < 1)
    (hK : StopsAt (lterm α z) tol K) : Truncates (lterm α z) K z (z * (tol / (1 - z))) :=
  ⟨lterm_nonneg α hz0.le, hz0, polylog_partialSum_ge hz0.le hK.1, (polylog_tail_bound hα hz0 hz1 hK).1,
    (polylog_tail_bound hα hz0 hz1 hK).2.trans_eq ((mul_div_assoc ..).trans (mul_div_left_comm ..))⟩

/-- `pow(k, -alpha) * exp(-k / kappa)` is the loop's `k`-th term at `z = exp(-1/kappa)` -/
theorem cutoff_numerator (α κ : ℝ) (k : ℕ) :
    (k : ℝ) ^ (-α) * Real.exp (-(k : ℝ) / κ) = lterm α (Real.exp (-1 / κ)) k := by
  unfold lterm
  rw [Real.rpow_neg (Nat.cast_nonneg k), ← Real.exp_nat_mul, div_eq_mul_inv, mul_comm]
  congr 2
  ring

theorem cutoff_z_range {κ : ℝ} (hκ : 0 < κ) : 0 < Real.exp (-1 / κ) ∧ Real.exp (-1 / κ) < 1 :=
  ⟨Real.exp_pos _, Real.exp_lt_one_iff.2 (by rw [neg_div]; exact neg_neg_of_pos (by positivity))⟩

theorem cutoff_nonneg (α : ℝ) {z : ℝ} (hz0 : 0 ≤ z) (K k : ℕ) :
    0 ≤ lterm α z k / partialSum (lterm α z) K :=
  div_nonneg (lterm_nonneg α hz0 k) (Finset.sum_nonneg fun i _ => lterm_nonneg α hz0 i)

theorem cutoff_close {α z tol : ℝ} {K : ℕ} (hα : 0 ≤ α) (hz0 : 0 < z) (hz1 : z < 1)
    (hK : StopsAt (lterm α z) tol K) (k : ℕ) :
    lterm α z k / (∑' i : ℕ, lterm α z (i + 1)) ≤ lterm α z k / partialSum (lterm α z) K ∧
      lterm α z k / partialSum (lterm α z) K - lterm α z k / (∑' i : ℕ, lterm α z (i + 1))
        ≤ (tol / (1 - z)) * (lterm α z k / (∑' i : ℕ, lterm α z (i + 1))) := by
  simpa only [mul_div_cancel_left₀ _ hz0.ne'] using (polylog_truncates hα hz0 hz1 hK).close k

theorem cutoff_sum {α z tol : ℝ} {K : ℕ} (hα : 0 ≤ α) (hz0 : 0 < z) (hz1 : z < 1)
    (hK : StopsAt (lterm α z) tol K) :
    1 ≤ ∑' k : ℕ, lterm α z (k + 1) / partialSum (lterm α z) K ∧
      ∑' k : ℕ, lterm α z (k + 1) / partialSum (lterm α z) K ≤ 1 + tol / (1 - z) := by
  simpa only [mul_div_cancel_left₀ _ hz0.ne'] using (polylog_truncates hα hz0 hz1 hK).sum

theorem cutoff_summable {α z : ℝ} (hα : 0 ≤ α) (hz0 : 0 ≤ z) (hz1 : z < 1) (K : ℕ) :
    Summable (fun k : ℕ => lterm α z (k + 1) / partialSum (lterm α z) K) :=
  (summable_lterm_succ hα hz0 hz1).div_const _

theorem zetaLoop_spec {s : ℕ} {tol l : ℚ} {fuel K : ℕ} (h : zetaTrunc s tol fuel = some (l, K)) :
    StopsAt (fun k => zterm (s : ℝ) k) (tol : ℝ) K ∧ (l : ℝ) = partialSum (zterm (s : ℝ)) K :=
  sumLoop_inv (zterm_cast s) tol fuel 1 0 l K le_rfl (fun j h1 h2 => absurd h2 (by omega))
    (by simp [partialSum_zero]) (zetaLoop_eq .. ▸ h)

theorem polylogLoop_spec {s : ℕ} {z tol l : ℚ} {fuel K : ℕ} (hz : 0 ≤ z)
    (h : polylogTrunc s z tol fuel = some (l, K)) :
    StopsAt (fun k => lterm (s : ℝ) (z : ℝ) k) (tol : ℝ) K ∧
      (l : ℝ) = partialSum (lterm (s : ℝ) (z : ℝ)) K :=
  sumLoop_inv (fun k => lterm_cast s k z) tol fuel 1 0 l K le_rfl (fun j h1 h2 => absurd h2 (by omega))
    (by simp [partialSum_zero]) (by rw [← polylogLoop_eq s hz, pow_one]; exact h)

/-- with enough fuel the executable zeta loop does return (it is not just vacuously specified) -/
example : zetaTrunc 2 (1 / 10) 10 = some (205 / 144, 4) := by decide +kernel

example : StopsAt (zterm 2) (1 / 10) 4 := by
  have h := (zetaLoop_spec (s := 2) (tol := 1 / 10) (l := 205 / 144) (fuel := 10) (K := 4)
    (by decide +kernel)).1
  simpa using h

example : (0 : ℝ) < (∑' k : ℕ, zterm 2 (k + 1)) - partialSum (zterm 2) 4 ∧
    (∑' k : ℕ, zterm 2 (k + 1)) - partialSum (zterm 2) 4 ≤ 4 * (1 / 10) := by
  have hs : StopsAt (zterm 2) (1 / 10) 4 := by
    have h := (zetaLoop_spec (s := 2) (tol := 1 / 10) (l := 205 / 144) (fuel := 10) (K := 4)
      (by decide +kernel)).1
    simpa using h
  have := zeta_tail_bound (le_refl 2) (by norm_num) hs
  simpa using this

example : ∃ K, StopsAt (lterm 2 (Real.exp (-1 / 5))) (1 / 1000000) K :=
  polylog_loop_terminates (by norm_num) (cutoff_z_range (by norm_num)).1.le
    (cutoff_z_range (by norm_num)).2 (by norm_num)

end Gcmpy.Distributions
