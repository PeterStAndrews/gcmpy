import GcmpyModel.Properties.C06Ingredients
import Mathlib.Topology.Instances.Rat
import Mathlib.Topology.Algebra.Monoid
import Mathlib.Topology.Algebra.Order.Group
/-!
# C06 — manual, empirical, marginal and function joint-degree loaders

Model: `GcmpyModel/Model/Loaders.lean`.  Weights are exact rationals (core `Rat`); callables are arbitrary
functions.

The sampling-mode limit `marginal_sampled_limit_full` is proved
(`marginal_sampled_limit`) as a CONDITIONAL statement: its hypotheses (a) and (b) are the
law-of-large-numbers facts about `random.choices` (marginal frequencies converge, columns are
asymptotically independent); they hold almost surely for i.i.d. draws but remain assumptions here —
no probability is modelled.  What is proved is the deterministic step from (a), (b) to the entry-wise
convergence of the sampled table (`sampled_tendsto_prod`, which holds for any column limits).
-/
namespace Gcmpy.Loaders
open Gcmpy

theorem manual_id (d : Table) : manual d = d := rfl

theorem counter_keys_nodup (jds : List JD) : (Dict.keys (counter jds)).Nodup := by
  rw [counter, counterFrom_eq_tally]; exact Dict.nodup_keys_tally _ _ List.nodup_nil

theorem empirical_nonneg (jds : List JD) : ∀ p ∈ empirical jds, 0 ≤ p.2 := by
  intro p hp
  obtain ⟨q, _, rfl⟩ := List.mem_map.1 hp
  exact div_nonneg (Nat.cast_nonneg _) (Nat.cast_nonneg _)

theorem empirical_sums_one (jds : List JD) (h : jds ≠ []) : ((empirical jds).map (·.2)).sum = 1 := by
  rw [empirical_eq, List.map_map]
  have hsum : ((counter jds).map fun p => ((p.2 : Nat) : Rat)).sum = jds.length := by
    rw [counter, counterFrom_eq_tally,
      Dict.sum_map_tally id (fun _ => 1) (fun _ c => ((c : Nat) : Rat)) fun _ => Nat.cast_add]
    simp
  exact (sum_map_div _ _ _).trans <| hsum.symm ▸
    div_self (Nat.cast_ne_zero.2 (mt List.length_eq_zero_iff.1 h))

theorem empirical_support (jds : List JD) (k : JD) : k ∈ (empirical jds).map (·.1) ↔ k ∈ jds := by
  rw [empirical_keys, ← Dict.get_isSome_iff_mem_keys, get_counter]
  split <;> simp [*]

/-- the empirical table has one entry per key (so it is a faithful `dict`) -/
theorem empirical_keys_nodup (jds : List JD) : ((empirical jds).map (·.1)).Nodup :=
  empirical_keys jds ▸ counter_keys_nodup jds

/-! ## marginal loader, direct mode

Keys are `product (bounds.map fun (lo, hi) => rangeAB lo hi)` — the EXCLUSIVE ranges
`range(kmin, kmax)` — and the normalising total is
`Z = ((product (bounds.map fun (lo, hi) => rangeAB lo hi)).map (marginalWeight fs)).sum`. -/

/-- the keys are the product of the exclusive ranges, in `itertools.product` order -/
theorem marginal_direct_keys (fs : List (Nat → Rat)) (bounds : List (Nat × Nat)) (t : Table)
    (h : marginalDirect fs bounds = .ok t) :
    t.map (·.1) = product (bounds.map fun (lo, hi) => rangeAB lo hi) := by
  rw [normalise_keys h, List.map_map]; exact List.map_id _

/-- keys = one degree per topology, each in `[kmin, kmax)`: all inside the bounds, `kmax` excluded -/
theorem marginal_direct_support (fs : List (Nat → Rat)) (bounds : List (Nat × Nat)) (t : Table)
    (h : marginalDirect fs bounds = .ok t) (k : JD) :
    k ∈ t.map (·.1) ↔
      (k.length = bounds.length ∧ ∀ i (h : i < k.length),
        (bounds.getD i (0, 0)).1 ≤ k[i] ∧ k[i] < (bounds.getD i (0, 0)).2) := by
  rw [marginal_direct_keys fs bounds t h, mem_product_box (fun (lo, hi) => rangeAB lo hi)]
  simp only [mem_rangeAB]

theorem marginal_direct_keys_nodup (fs : List (Nat → Rat)) (bounds : List (Nat × Nat)) (t : Table)
    (h : marginalDirect fs bounds = .ok t) : (t.map (·.1)).Nodup :=
  marginal_direct_keys fs bounds t h ▸ product_nodup _ (List.forall_mem_map.2 fun _ _ => rangeAB_nodup _ _)

/-- `jdd[k] = Π fᵢ(kᵢ) / Z` for every key -/
theorem marginal_direct_value (fs : List (Nat → Rat)) (bounds : List (Nat × Nat)) (t : Table)
    (h : marginalDirect fs bounds = .ok t) (k : JD) (hk : k ∈ t.map (·.1)) :
    Dict.get t k = some (marginalWeight fs k /
      ((product (bounds.map fun (lo, hi) => rangeAB lo hi)).map (marginalWeight fs)).sum) := by
  rw [marginal_direct_keys fs bounds t h] at hk
  rw [normalise_get h, Dict.get_map_key _ (marginalWeight fs), if_pos hk, List.map_map]; rfl

theorem marginal_direct_sums_one (fs : List (Nat → Rat)) (bounds : List (Nat × Nat)) (t : Table)
    (h : marginalDirect fs bounds = .ok t) (hne : t ≠ []) : (t.map (·.2)).sum = 1 :=
  normalise_sums_one h hne

theorem marginal_direct_nonneg (fs : List (Nat → Rat)) (bounds : List (Nat × Nat)) (t : Table)
    (h : marginalDirect fs bounds = .ok t) (hf : ∀ f ∈ fs, ∀ x, 0 ≤ f x) : ∀ p ∈ t, 0 ≤ p.2 :=
  normalise_nonneg h fun p hp => by
    obtain ⟨k, _, rfl⟩ := List.mem_map.1 hp
    exact marginalWeight_nonneg fs hf k

/-- `ZeroDivisionError` exactly when there is at least one key and the total weight is zero -/
theorem marginal_direct_zero (fs : List (Nat → Rat)) (bounds : List (Nat × Nat)) :
    marginalDirect fs bounds = .error .zeroDivision ↔
      (product (bounds.map fun (lo, hi) => rangeAB lo hi) ≠ [] ∧
       ((product (bounds.map fun (lo, hi) => rangeAB lo hi)).map (marginalWeight fs)).sum = 0) := by
  rw [marginalDirect_eq, normalise_error_iff, Ne, List.map_eq_nil_iff, List.map_map]; rfl

/-- with no key at all (some `kmin ≥ kmax`) the table is empty and nothing is raised -/
theorem marginal_direct_empty (fs : List (Nat → Rat)) (bounds : List (Nat × Nat))
    (h : product (bounds.map fun (lo, hi) => rangeAB lo hi) = []) :
    marginalDirect fs bounds = .ok [] := by
  rw [marginalDirect_eq, h]; rfl

theorem marginal_sampled_is_empirical (cols : List (List Nat)) :
    marginalSampled cols = empirical (transpose cols) := rfl

/-- one `random.choices` call per dimension (`sampledCalls_length`, which the statement of `sampled_calls_aligned`
    needs before this file, under the property's name) -/
theorem sampled_calls_length (fs : List (Nat → Rat)) (bounds : List (Nat × Nat)) (n : Nat) :
    (sampledCalls fs bounds n).length = bounds.length :=
  sampledCalls_length fs bounds n

/-- The law-of-large-numbers step ("in the limit of many samples") of the sampling mode.  `cols n` are the
per-dimension sample columns at sample size `n`; `sampledCalls fs bounds 0` stands for the calls at any sample
size, since the range and the weights of a call do not depend on it.
If (a) every column's frequencies converge to its normalised marginal on the inclusive range and
(b) the columns are asymptotically independent (joint row frequency minus product of column
frequencies tends to 0), then every entry of the sampled table converges to the product of the normalised
marginals on the INCLUSIVE box (and to 0 off the box).  Corner cases: with no dimension at all (`bounds = []`)
hypothesis (b) is unsatisfiable (the sampled table is empty, so the frequency of the key `[]` is `0`, never close to
the empty product `1`), so the statement holds vacuously there; `n = 0` is harmless (`0 / 0 = 0` on
both sides and only large `n` matter). -/
def marginal_sampled_limit_full : Prop :=
  ∀ (fs : List (Nat → Rat)) (bounds : List (Nat × Nat)) (cols : Nat → List (List Nat)),
    -- admissible weights for `random.choices`: non-negative with a positive total per dimension
    (∀ call ∈ sampledCalls fs bounds 0, (∀ w ∈ call.2.1, 0 ≤ w) ∧ 0 < call.2.1.sum) →
    -- shape: one column per dimension, `n` samples each
    (∀ n, (cols n).length = bounds.length ∧ ∀ c ∈ cols n, c.length = n) →
    -- (a) marginal frequencies converge
    (∀ i, i < bounds.length → ∀ x : Nat, ∀ ε : Rat, 0 < ε → ∃ N, ∀ n, N ≤ n →
      |((((cols n).getD i []).count x : Nat) : Rat) / (n : Rat)
        - (if x ∈ ((sampledCalls fs bounds 0).getD i ([], [], 0)).1
           then (fs.getD i (fun _ => 0)) x / ((sampledCalls fs bounds 0).getD i ([], [], 0)).2.1.sum
           else 0)| < ε) →
    -- (b) asymptotic independence of the columns
    (∀ k : JD, k.length = bounds.length → ∀ ε : Rat, 0 < ε → ∃ N, ∀ n, N ≤ n →
      |(((transpose (cols n)).count k : Nat) : Rat) / (n : Rat)
        - (k.zipIdx.map fun (d, i) => ((((cols n).getD i []).count d : Nat) : Rat) / (n : Rat)).prod| < ε) →
    -- conclusion: the table converges entry-wise to the product law on the inclusive box
    ∀ k : JD, ∀ ε : Rat, 0 < ε → ∃ N, ∀ n, N ≤ n →
      |(Dict.get (marginalSampled (cols n)) k).getD 0
        - (if k.length = bounds.length then
            (k.zipIdx.map fun (d, i) =>
              if d ∈ ((sampledCalls fs bounds 0).getD i ([], [], 0)).1
              then (fs.getD i (fun _ => 0)) d / ((sampledCalls fs bounds 0).getD i ([], [], 0)).2.1.sum
              else 0).prod
           else 0)| < ε

theorem close_iff_tendsto {a : Nat → Rat} {b : Rat} :
    (∀ ε : Rat, 0 < ε → ∃ N, ∀ n, N ≤ n → |a n - b| < ε) ↔ Filter.Tendsto a Filter.atTop (nhds b) := by
  simp only [LinearOrderedAddCommGroup.tendsto_nhds, Filter.eventually_atTop]

/-- The limit step, for any column limits `q i x`: if (a) the frequency of `x` in column `i` tends to `q i x` and
(b) the joint row frequency minus the product of the column frequencies tends to `0`, then the entry at `k` of the
empirical joint table, `count k (transpose (cols n)) / n`, tends to the product of the column limits (`0` for a key of
the wrong arity): by (a) and `tendsto_list_prod` the product of the column frequencies does; add (b). -/
theorem sampled_tendsto_prod {N : Nat} {q : Nat → Nat → Rat} {cols : Nat → List (List Nat)}
    (hshape : ∀ n, (cols n).length = N ∧ ∀ c ∈ cols n, c.length = n)
    (ha : ∀ i, i < N → ∀ x : Nat, Filter.Tendsto
      (fun n => ((((cols n).getD i []).count x : Nat) : Rat) / (n : Rat)) Filter.atTop (nhds (q i x)))
    (hb : ∀ k : JD, k.length = N → Filter.Tendsto (fun n => (((transpose (cols n)).count k : Nat) : Rat) / (n : Rat)
      - (k.zipIdx.map fun (d, i) => ((((cols n).getD i []).count d : Nat) : Rat) / (n : Rat)).prod)
      Filter.atTop (nhds 0)) (k : JD) :
    Filter.Tendsto (fun n => (Dict.get (marginalSampled (cols n)) k).getD 0) Filter.atTop
      (nhds (if k.length = N then (k.zipIdx.map fun (d, i) => q i d).prod else 0)) := by
  -- the entry is `count / n`, also with no column at all, where both sides are `0`
  have hentry : ∀ n, (Dict.get (marginalSampled (cols n)) k).getD 0
      = (((transpose (cols n)).count k : Nat) : Rat) / (n : Rat) := fun n => by
    rw [marginal_sampled_is_empirical, empirical_getD]
    cases hc : cols n with
    | nil => simp [transpose]
    | cons c cs => rw [transpose_length_cons, (hshape n).2 c (hc ▸ List.mem_cons_self)]
  by_cases hk : k.length = N
  · have hidx : ∀ p ∈ k.zipIdx, p.2 < N := fun p hp =>
      hk ▸ (by simpa using (List.mem_zipIdx' (x := p.1) (i := p.2) hp).1)
    simpa only [if_pos hk, hentry, sub_add_cancel, zero_add] using
      (hb k hk).add (tendsto_list_prod k.zipIdx fun p hp => ha p.2 (hidx p hp) p.1)
  · rw [if_neg hk]
    refine tendsto_const_nhds.congr fun n => ?_
    rw [hentry, List.count_eq_zero_of_not_mem fun hm => hk ((length_of_mem_transpose _ k hm).trans (hshape n).1)]
    simp

/-- the instance `q i x = fᵢ(x) / Zᵢ` on the inclusive range, `0` off it; the admissible weights are not used -/
theorem marginal_sampled_limit : marginal_sampled_limit_full := by
  intro fs bounds cols _hadm hshape ha hb k
  exact close_iff_tendsto.2 (sampled_tendsto_prod hshape (fun i hi x => close_iff_tendsto.1 (ha i hi x))
    (fun k hk => close_iff_tendsto.1 fun ε hε => by simpa only [sub_zero] using hb k hk ε hε) k)

/-- the hypotheses of `marginal_sampled_limit` are satisfiable by a non-trivial family of columns:
    one dimension with the single admissible degree `3`, every sample equal to `3` -/
example : ∃ (fs : List (Nat → Rat)) (bounds : List (Nat × Nat)) (cols : Nat → List (List Nat)),
    bounds ≠ [] ∧ (∀ n, cols n = [List.replicate n 3]) ∧
    (∀ call ∈ sampledCalls fs bounds 0, (∀ w ∈ call.2.1, 0 ≤ w) ∧ 0 < call.2.1.sum) ∧
    (∀ n, (cols n).length = bounds.length ∧ ∀ c ∈ cols n, c.length = n) ∧
    (∀ i, i < bounds.length → ∀ x : Nat, ∀ ε : Rat, 0 < ε → ∃ N, ∀ n, N ≤ n →
      |((((cols n).getD i []).count x : Nat) : Rat) / (n : Rat)
        - (if x ∈ ((sampledCalls fs bounds 0).getD i ([], [], 0)).1
           then (fs.getD i (fun _ => 0)) x / ((sampledCalls fs bounds 0).getD i ([], [], 0)).2.1.sum
           else 0)| < ε) ∧
    (∀ k : JD, k.length = bounds.length → ∀ ε : Rat, 0 < ε → ∃ N, ∀ n, N ≤ n →
      |(((transpose (cols n)).count k : Nat) : Rat) / (n : Rat)
        - (k.zipIdx.map fun (d, i) => ((((cols n).getD i []).count d : Nat) : Rat) / (n : Rat)).prod| < ε) := by
  have hs : sampledCalls [fun _ => (1 : Rat)] [(3, 3)] 0 = [([3], [1], 0)] := by decide +kernel
  -- every sample is `3`: the frequency of `x` is `1` or `0` from `n = 1` on
  have hfreq : ∀ (n x : Nat), 1 ≤ n →
      (((List.replicate n 3).count x : Nat) : Rat) / (n : Rat) = if x = 3 then 1 else 0 := by
    intro n x hn
    have hn0 : (n : Rat) ≠ 0 := Nat.cast_ne_zero.2 (by omega)
    rw [List.count_replicate]
    by_cases hx : x = 3
    · subst hx; simp [div_self hn0]
    · simp [hx, Ne.symm hx]
  refine ⟨[fun _ => 1], [(3, 3)], fun n => [List.replicate n 3], by simp, fun _ => rfl, ?_, ?_, ?_, ?_⟩
  · intro call hc
    rw [hs, List.mem_singleton] at hc
    subst hc
    simp
  · intro n; simp
  · intro i hi x ε hε
    obtain rfl : i = 0 := by simpa using hi
    refine ⟨1, fun n hn => ?_⟩
    rw [hs]
    show |(((List.replicate n 3).count x : Nat) : Rat) / (n : Rat)
      - (if x ∈ [3] then (1 : Rat) / ([1] : List Rat).sum else 0)| < ε
    rw [hfreq n x hn]
    by_cases hx : x = 3 <;> simpa [hx] using hε
  · intro k hk ε hε
    refine ⟨1, fun n hn => ?_⟩
    obtain ⟨d, rfl⟩ : ∃ d, k = [d] := by
      match k, hk with
      | [d], _ => exact ⟨d, rfl⟩
    have hT : transpose [List.replicate n 3] = List.replicate n [3] := by
      have : transpose [List.replicate n 3] = (List.range n).map fun _ => [3] := by
        simp only [transpose, List.length_replicate]
        refine List.map_congr_left fun r hr => ?_
        simp [List.getD_eq_getElem?_getD, List.mem_range.1 hr]
      rw [this]; simp
    show |(((transpose [List.replicate n 3]).count [d] : Nat) : Rat) / (n : Rat)
      - ([((((List.replicate n 3).count d : Nat) : Rat) / (n : Rat))] : List Rat).prod| < ε
    rw [hT, hfreq n d hn, List.count_replicate]
    have hn0 : (n : Rat) ≠ 0 := Nat.cast_ne_zero.2 (by omega)
    by_cases hd : d = 3
    · subst hd; simpa [div_self hn0] using hε
    · simpa [hd, Ne.symm hd] using hε

/-- witness for the zero-dimension corner named at `marginal_sampled_limit_full` -/
example (cols : Nat → List (List Nat)) (hshape : ∀ n, (cols n).length = ([] : List (Nat × Nat)).length) :
    ¬ ∃ N, ∀ n, N ≤ n →
      |(((transpose (cols n)).count ([] : JD) : Nat) : Rat) / (n : Rat)
        - ((([] : JD).zipIdx.map fun (d, i) =>
            ((((cols n).getD i []).count d : Nat) : Rat) / (n : Rat)).prod)| < 1 := by
  rintro ⟨N, h⟩
  have h0 := h N le_rfl
  have hc : cols N = [] := List.eq_nil_of_length_eq_zero (hshape N)
  rw [hc] at h0
  simp [transpose] at h0

example : (Dict.get (marginalSampled []) []).getD 0 = 0 := by decide +kernel

/-- keys = the whole INCLUSIVE box `[kmin, kmax]` per topology -/
theorem function_support (fp : JD → Rat) (bounds : List (Nat × Nat)) (k : JD) :
    k ∈ (functionLoader fp bounds).map (·.1) ↔
      (k.length = bounds.length ∧ ∀ i (h : i < k.length),
        (bounds.getD i (0, 0)).1 ≤ k[i] ∧ k[i] ≤ (bounds.getD i (0, 0)).2) := by
  rw [functionLoader_keys, mem_product_box (fun (lo, hi) => rangeAB lo (hi + 1))]
  simp only [mem_rangeAB, Nat.lt_succ_iff]

/-- every entry is the callable's value, not normalised -/
theorem function_value (fp : JD → Rat) (bounds : List (Nat × Nat)) (p : JD × Rat)
    (h : p ∈ functionLoader fp bounds) : p.2 = fp p.1 := by
  obtain ⟨k, _, rfl⟩ := List.mem_map.1 h
  rfl

theorem function_keys_nodup (fp : JD → Rat) (bounds : List (Nat × Nat)) :
    ((functionLoader fp bounds).map (·.1)).Nodup :=
  functionLoader_keys fp bounds ▸ product_nodup _ (List.forall_mem_map.2 fun _ _ => rangeAB_nodup _ _)

/-- lookup form of `function_value` -/
theorem function_get (fp : JD → Rat) (bounds : List (Nat × Nat)) (k : JD)
    (hk : k ∈ (functionLoader fp bounds).map (·.1)) :
    Dict.get (functionLoader fp bounds) k = some (fp k) := by
  rw [functionLoader_keys] at hk
  exact (Dict.get_map_key _ fp k).trans (if_pos hk)

/-! ## `load_joint_degree` = direct construction

`JointDegreeDistribution.load_joint_degree` builds the loader (whose `__init__` already calls
`create_jdd()`) and then calls `create_jdd()` once more.  For the manual loader `create_jdd` leaves the
stored table alone; for the other deterministic loaders it recomputes the table from the constructor
parameters only, ignoring the table already stored.  The model's loaders are pure functions of those
parameters, so "create again on top of the constructed state" gives the same table.  The second
`create_jdd()` is written as a function of the previously stored table.  That the real `create_jdd` ignores what
is stored is a modelling claim which the statements below do not contain (they are `rfl`); the harness checks it
by running both construction paths. -/

theorem load_eq_direct_manual (d : Table) : manual (manual d) = manual d := rfl

theorem load_eq_direct_empirical (jds : List JD) :
    (fun _stored : Table => empirical jds) (empirical jds) = empirical jds := rfl

theorem load_eq_direct_marginal (fs : List (Nat → Rat)) (bounds : List (Nat × Nat)) :
    (fun _stored : Except Err Table => marginalDirect fs bounds) (marginalDirect fs bounds)
      = marginalDirect fs bounds := rfl

theorem load_eq_direct_function (fp : JD → Rat) (bounds : List (Nat × Nat)) :
    (fun _stored : Table => functionLoader fp bounds) (functionLoader fp bounds)
      = functionLoader fp bounds := rfl

example : empirical [[1, 0], [1, 0], [0, 2]] = [([1, 0], 2 / 3), ([0, 2], 1 / 3)] := by
  decide +kernel

/-- two topologies, bounds `(0,2)` and `(1,3)`: keys `{0,1} × {1,2}` (upper bounds excluded) -/
example :
    marginalDirect [fun k => if k = 0 then 1 else 3, fun k => (k : Rat)] [(0, 2), (1, 3)]
      = .ok [([0, 1], 1 / 12), ([0, 2], 1 / 6), ([1, 1], 1 / 4), ([1, 2], 1 / 2)] := by
  decide +kernel

example : marginalDirect [fun _ => 0] [(0, 2)] = .error .zeroDivision := by decide +kernel

example : marginalDirect [fun _ => 1, fun _ => 1] [(0, 2), (3, 3)] = .ok [] := by decide +kernel

/-- the function loader covers the inclusive box and does not normalise -/
example :
    functionLoader (fun k => (k.sum : Rat) / 2) [(0, 1), (2, 3)]
      = [([0, 2], 1), ([0, 3], 3 / 2), ([1, 2], 3 / 2), ([1, 3], 2)] := by
  decide +kernel

/-- sampling mode asks for the inclusive ranges -/
example :
    sampledCalls [fun k => (k : Rat), fun _ => 1 / 2] [(0, 2), (1, 2)] 5
      = [([0, 1, 2], [0, 1, 2], 5), ([1, 2], [1 / 2, 1 / 2], 5)] := by
  decide +kernel

example : marginalSampled [[0, 1, 0, 2], [1, 1, 1, 2]]
    = [([0, 1], 1 / 2), ([1, 1], 1 / 4), ([2, 2], 1 / 4)] := by
  decide +kernel

end Gcmpy.Loaders
