import GcmpyModel.Lemmas.AutomatedCache
import GcmpyModel.Properties.C15
/-!
# C15 (second sentence) — the value does not depend on what was evaluated earlier on the same evaluator

`γ name` is the motif that a name denotes ("distinctly named motifs": equal names denote equal graphs).
The caches hold structure only (connected vertex sets, edge-combination counts), never `p` or `u`.
-/
namespace Gcmpy.Automated
variable {R : Type} [Add R] [Sub R] [Mul R] [OfNat R 0] [OfNat R 1]

/-- one call on an evaluator whose cache entries are all correct returns the stateless value and keeps them correct
(`cache_transparent`, restated for the property) -/
theorem evaluator_call_transparent {γ : String → Motif} {st : Caches} {G : Motif} {name : String}
    (p : R) (u : Nat → R) (root : Nat) (hv : Valid γ st) (hG : γ name = G) :
    (automatedEquationM st G name p u root).2 = automatedEquation G p u root ∧
      Valid γ (automatedEquationM st G name p u root).1 :=
  cache_transparent p u root hv hG

/-- **every history**: for any sequence of calls on one (initially fresh) evaluator, each value equals what a
    fresh evaluator returns for that call (`calls_independent_of_history`, restated for the property) -/
theorem value_independent_of_history (γ : String → Motif) (calls : List (Call R)) :
    (runCalls γ Caches.empty calls).2 = calls.map fun c => automatedEquation (γ c.name) c.p c.u c.root :=
  calls_independent_of_history γ calls

/-- combined with `automated_exact`: every value in any history is the exact expectation -/
theorem history_values_exact {K : Type} [CommRing K] (γ : String → Motif)
    (hγ : ∀ n, Graph.WFGraph (γ n).edges (γ n).nodes ∧ Simple (γ n).edges) (calls : List (Call K))
    (hr : ∀ c ∈ calls, c.root ∈ (γ c.name).nodes) :
    (runCalls γ Caches.empty calls).2 = calls.map fun c => exactE (γ c.name) c.p c.u c.root := by
  rw [value_independent_of_history]
  apply List.map_congr_left
  intro c hc
  exact automated_exact (γ c.name) (hγ c.name).1 (hγ c.name).2 (hr c hc) c.p c.u

end Gcmpy.Automated
