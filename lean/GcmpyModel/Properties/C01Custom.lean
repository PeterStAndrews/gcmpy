import GcmpyModel.Lemmas.GenerateCustom
import GcmpyModel.Properties.C01
/-!
# C01 (custom-motif generator) — the generated motifs realise exactly the joint degree sequence

`σ = shuffled jds draws`; `draws` is universally quantified ("for every outcome of the shuffles"), `build` is an
arbitrary callback.  `runCustomT` is the tagged refinement of the model (Lemmas/GenerateCustom.lean): it returns
the popped chunks as `(orbit column, chunk)` pairs, grouped per motif instance as `(motif type, tagged chunks)`,
together with the final (leftover) partitions; `custom_tagged_records` says that forgetting the tags gives exactly
the model's `motifsCustom`.
-/
namespace Gcmpy.Generate

/-- The custom handshake condition.  Every orbit list is non-empty with all indices valid columns, and for every
    column `i`: the orbit size is positive, divides the number of stubs, and the number of chunks equals the
    number of times column `i` gets popped (`num_motifs` of each motif type times multiplicity of `i` in it). -/
structure HC (sizes : List Nat) (orbitLists : List (List Nat)) (jds : List (List Nat)) : Prop where
  orbits_ne : ∀ orbits ∈ orbitLists, orbits ≠ []
  orbits_lt : ∀ orbits ∈ orbitLists, ∀ i ∈ orbits, i < ncols jds
  size_pos : ∀ i, i < ncols jds → 0 < sizes.getD i 0
  size_dvd : ∀ i, i < ncols jds → sizes.getD i 0 ∣ colSum jds i
  balance : ∀ i, i < ncols jds → colSum jds i / sizes.getD i 0 =
    (orbitLists.map fun orbits =>
      (colSum jds (orbits.headD 0) / sizes.getD (orbits.headD 0) 0) * orbits.count i).sum

variable {β : Type} (sizes : List Nat) (orbitLists : List (List Nat)) (build : Nat → List Nat → β)
  (jds : List (List Nat)) (draws : List (List Nat))

/-- forgetting the tags of the refinement gives exactly the model's records; each record's `verts` is the
    concatenation of its tagged chunks, whose tags are the motif type's orbit list, in orbit order -/
theorem custom_tagged_records {sizes : List Nat} {orbitLists σ : List (List Nat)} {gs : List (Nat × Tagged)}
    {fin : List (List (List Nat))} (h : runCustomT sizes orbitLists σ = some (gs, fin)) :
    motifsCustom sizes orbitLists build σ = some (recordsOf build gs) ∧
    (recordsOf build gs).map (fun m => (m.top, m.verts)) = gs.map (fun g => (g.1, untag g.2)) ∧
    ∀ g ∈ gs, g.1 < orbitLists.length ∧ g.2.map (·.1) = orbitLists.getD g.1 [] :=
  ⟨by rw [motifsCustom_eq_T, h]; rfl, by rw [recordsOf_eq, records_proj], fun _ hg => run_tags h hg⟩

/-- conversely every successful run of the model is the untagged image of a tagged run -/
theorem custom_run_of_some (σ : List (List Nat)) (ms : List (Motif β))
    (h : motifsCustom sizes orbitLists build σ = some ms) :
    ∃ gs fin, runCustomT sizes orbitLists σ = some (gs, fin) ∧ ms = recordsOf build gs := by
  rw [motifsCustom_eq_T] at h
  obtain ⟨⟨gs, fin⟩, hr, rfl⟩ := Option.map_eq_some_iff.1 h
  exact ⟨gs, fin, hr, rfl⟩

/-! ### statements that need no handshake hypothesis -/

/-- exact conservation: the initial partition of column `i` is the final one followed by the chunks popped from
    column `i`, latest pop first -/
theorem custom_conservation_eq {sizes : List Nat} {orbitLists σ : List (List Nat)} {gs : List (Nat × Tagged)}
    {fin : List (List (List Nat))} (h : runCustomT sizes orbitLists σ = some (gs, fin)) (i : Nat) :
    (partitions sizes σ).getD i [] = fin.getD i [] ++ (popped i (allTagged gs)).reverse :=
  (run_conserved h).2 i

/-- conservation: the stubs in the initial partition of column `i` are, as a multiset, the leftover
    stubs of column `i` plus the stubs in the chunks popped from column `i` -/
theorem custom_conservation (σ : List (List Nat)) (gs : List (Nat × Tagged)) (fin : List (List (List Nat)))
    (h : runCustomT sizes orbitLists σ = some (gs, fin)) (i : Nat) :
    ((partitions sizes σ).getD i []).flatten.Perm
      ((fin.getD i []).flatten ++ (popped i (allTagged gs)).flatten) := by
  rw [custom_conservation_eq h i, List.flatten_append]
  exact List.Perm.append_left _ (List.reverse_perm _).flatten

/-- conservation in terms of the joint degree sequence: for a column with positive orbit size, the stub list
    (vertex `v` repeated `jds[v][i]` times) is a permutation of leftover ++ popped -/
theorem custom_conservation_stubs {sizes : List Nat} {orbitLists jds draws : List (List Nat)}
    {gs : List (Nat × Tagged)} {fin : List (List (List Nat))}
    (h : runCustomT sizes orbitLists (shuffled jds draws) = some (gs, fin))
    {i : Nat} (hi : i < ncols jds) (hs : 0 < sizes.getD i 0) :
    (stubs jds i).Perm ((fin.getD i []).flatten ++ (popped i (allTagged gs)).flatten) :=
  (pool_flatten sizes jds draws hi hs).symm.trans (custom_conservation sizes orbitLists _ gs fin h i)

/-- no vertex outside `0..N-1` ever appears, whenever the generator does not raise -/
theorem custom_vertices_in_range (ms : List (Motif β))
    (h : motifsCustom sizes orbitLists build (shuffled jds draws) = some ms)
    (m : Motif β) (hm : m ∈ ms) (v : Nat) (hv : v ∈ m.verts) : v < jds.length := by
  obtain ⟨gs, fin, hr, rfl⟩ := custom_run_of_some sizes orbitLists build _ ms h
  obtain ⟨g, hg, _, hverts⟩ := mem_recordsOf build hm
  obtain ⟨⟨i, c⟩, hic, hvc⟩ := mem_untag.1 (hverts ▸ hv)
  exact vertex_lt_of_mem_pool ((run_conserved hr).mem (mem_allTagged.2 ⟨g, hg, hic⟩)) hvc

/-- the build callback of the motif type is what is applied to the drawn vertices -/
theorem custom_build_applied (σ : List (List Nat)) (ms : List (Motif β))
    (h : motifsCustom sizes orbitLists build σ = some ms) (m : Motif β) (hm : m ∈ ms) :
    m.built = build m.top m.verts := by
  obtain ⟨gs, rfl⟩ := exists_records_of_motifsCustom h
  exact records_built build gs hm

/-! ### statements under the custom handshake hypothesis -/

section HC
variable {sizes orbitLists jds}

theorem HC.head_lt (H : HC sizes orbitLists jds) (orbits : List Nat) (ho : orbits ∈ orbitLists) :
    orbits.headD 0 < ncols jds := by
  have hne := H.orbits_ne orbits ho
  cases orbits with
  | nil => exact absurd rfl hne
  | cons kk os => exact H.orbits_lt _ ho kk (List.mem_cons_self ..)

theorem HC.numMotifs_eq (H : HC sizes orbitLists jds) (orbits : List Nat) (ho : orbits ∈ orbitLists) :
    numMotifs sizes (shuffled jds draws) orbits
      = colSum jds (orbits.headD 0) / sizes.getD (orbits.headD 0) 0 := by
  rw [numMotifs, (shuffled_getD_perm jds draws _ (H.head_lt orbits ho)).length_eq, length_stubs]

theorem HC.demand_eq (H : HC sizes orbitLists jds) (i : Nat) (hi : i < ncols jds) :
    demand sizes (shuffled jds draws) orbitLists i = ((partitions sizes (shuffled jds draws)).getD i []).length := by
  rw [(pool_sizes sizes jds draws hi (H.size_dvd i hi)).1, H.balance i hi, demand,
    List.map_congr_left fun orbits ho => by rw [H.numMotifs_eq draws orbits ho]]

theorem HC.demand_le (H : HC sizes orbitLists jds) (i : Nat) :
    demand sizes (shuffled jds draws) orbitLists i ≤ ((partitions sizes (shuffled jds draws)).getD i []).length := by
  rcases Nat.lt_or_ge i (ncols jds) with hi | hi
  · exact Nat.le_of_eq (H.demand_eq draws i hi)
  · -- no orbit list mentions a column outside the sequence
    refine Nat.le_trans (Nat.le_of_eq (List.sum_eq_zero_iff_forall_eq_nat.2 fun x hx => ?_)) (Nat.zero_le _)
    obtain ⟨orbits, ho, rfl⟩ := List.mem_map.1 hx
    rw [List.count_eq_zero.2 fun hm => Nat.not_lt.2 hi (H.orbits_lt orbits ho i hm), Nat.mul_zero]

theorem HC.run_ok (H : HC sizes orbitLists jds) :
    ∃ gs fin, runCustomT sizes orbitLists (shuffled jds draws) = some (gs, fin) := by
  obtain ⟨⟨gs, fin⟩, h⟩ := drawAllT_ok sizes (shuffled jds draws) orbitLists 0
    (partitions sizes (shuffled jds draws))
    (fun orbits ho => ⟨H.orbits_ne orbits ho, by rw [length_shuffled]; exact H.head_lt orbits ho,
      H.size_pos _ (H.head_lt orbits ho)⟩)
    (H.demand_le draws)
  exact ⟨gs, fin, h⟩

/-- the generator does not raise -/
theorem custom_no_error (H : HC sizes orbitLists jds) :
    ∃ ms, motifsCustom sizes orbitLists build (shuffled jds draws) = some ms := by
  obtain ⟨gs, fin, h⟩ := H.run_ok draws
  exact ⟨_, (custom_tagged_records build h).1⟩

/-- exactly `colSum jds kk / sizes[kk]` records of motif type `j`, `kk` the first orbit of type `j` -/
theorem custom_motif_count (H : HC sizes orbitLists jds) (ms : List (Motif β))
    (h : motifsCustom sizes orbitLists build (shuffled jds draws) = some ms) (j : Nat) (hj : j < orbitLists.length) :
    (ms.filter (fun m => m.top = j)).length
      = colSum jds ((orbitLists.getD j []).headD 0) / sizes.getD ((orbitLists.getD j []).headD 0) 0 := by
  obtain ⟨gs, fin, hr, rfl⟩ := custom_run_of_some sizes orbitLists build _ ms h
  have ho : orbitLists.getD j [] ∈ orbitLists := by
    rw [List.getD_eq_getElem?_getD, List.getElem?_eq_getElem hj]; exact List.getElem_mem hj
  rw [← H.numMotifs_eq draws _ ho, ← run_count hr hj, recordsOf_eq, ← List.length_map (f := (·.verts)),
    records_top, List.filter_map, List.length_map, List.length_map]
  rfl

/-- a record of type `j` is built from `Σ_{i ∈ orbitLists[j]} sizes[i]` drawn stubs -/
theorem custom_group_size (H : HC sizes orbitLists jds) (ms : List (Motif β))
    (h : motifsCustom sizes orbitLists build (shuffled jds draws) = some ms) (m : Motif β) (hm : m ∈ ms) :
    m.verts.length = ((orbitLists.getD m.top []).map fun i => sizes.getD i 0).sum := by
  obtain ⟨gs, fin, hr, rfl⟩ := custom_run_of_some sizes orbitLists build _ ms h
  obtain ⟨g, hg, htop, hverts⟩ := mem_recordsOf build hm
  rw [hverts, htop, ← (run_tags hr hg).2, length_untag, List.map_map]
  congr 1
  refine List.map_congr_left fun ⟨i, c⟩ hic => ?_
  have hc := (run_conserved hr).mem (mem_allTagged.2 ⟨g, hg, hic⟩)
  have hi := col_lt_of_mem_pool hc
  exact (pool_sizes sizes jds draws hi (H.size_dvd i hi)).2 c hc

/-- every stub is used: all partitions are empty at the end -/
theorem custom_leftover_none (H : HC sizes orbitLists jds) (gs : List (Nat × Tagged)) (fin : List (List (List Nat)))
    (h : runCustomT sizes orbitLists (shuffled jds draws) = some (gs, fin)) :
    fin.length = ncols jds ∧ ∀ p ∈ fin, p = [] := by
  have hlen : fin.length = ncols jds := by rw [(run_conserved h).1, length_partitions, length_shuffled]
  refine ⟨hlen, fun p hp => ?_⟩
  obtain ⟨i, hi, rfl⟩ := List.getElem_of_mem hp
  have e := (run_conserved h).length i
  rw [run_popped_length h i, H.demand_eq draws i (hlen ▸ hi), List.getD_eq_getElem?_getD (l := fin),
    List.getElem?_eq_getElem hi] at e
  exact List.length_eq_zero_iff.1 (by simpa using e)

/-- the generator does not raise, its records are the untagged image of the tagged run, each record's `verts`
    is the concatenation of its tagged chunks (tags = the type's orbit list, in orbit order), and every vertex
    `v` occupies exactly `jds[v][i]` slots in the chunks popped from orbit column `i` over all records -/
theorem custom_slots (H : HC sizes orbitLists jds) :
    ∃ gs fin, runCustomT sizes orbitLists (shuffled jds draws) = some (gs, fin) ∧
      motifsCustom sizes orbitLists build (shuffled jds draws) = some (recordsOf build gs) ∧
      (recordsOf build gs).map (fun m => (m.top, m.verts)) = gs.map (fun g => (g.1, untag g.2)) ∧
      (∀ g ∈ gs, g.2.map (·.1) = orbitLists.getD g.1 []) ∧
      ∀ i, i < ncols jds → ∀ v,
        ((popped i (allTagged gs)).flatten).count v = if v < jds.length then deg jds v i else 0 := by
  obtain ⟨gs, fin, h⟩ := H.run_ok draws
  have ht := custom_tagged_records build h
  refine ⟨gs, fin, h, ht.1, ht.2.1, fun g hg => (ht.2.2 g hg).2, fun i hi v => ?_⟩
  have hp := custom_conservation_stubs h hi (H.size_pos i hi)
  have hf := custom_leftover_none draws H gs fin h
  rw [List.getD_eq_getElem?_getD, List.getElem?_eq_getElem (hf.1 ▸ hi), Option.getD_some,
    hf.2 _ (List.getElem_mem _), List.flatten_nil, List.nil_append] at hp
  rw [← hp.count_eq, count_stubs, deg_eq_ite]

end HC

/-! ### non-vacuity: a concrete two-type, three-column configuration -/

/-- motif type 0 uses orbit columns 0 and 1 (two stubs each), type 1 uses column 2 (one stub) -/
example : HC [2, 2, 1] [[0, 1], [2]] [[1, 2, 1], [1, 0, 0], [2, 1, 1], [0, 1, 0]] := by
  refine ⟨by decide, by decide, by decide, ?_, by decide⟩
  intro i hi
  have hi' : i < 3 := hi
  rcases i with _ | _ | _ | i
  · exact ⟨2, by decide⟩
  · exact ⟨2, by decide⟩
  · exact ⟨2, by decide⟩
  · omega

example : (motifsCustom [2, 2, 1] [[0, 1], [2]] (fun _ vs => vs.length)
      (shuffled [[1, 2, 1], [1, 0, 0], [2, 1, 1], [0, 1, 0]] [[2, 0, 1], [1, 1, 0], [0]])).map
      (fun ms => ms.map fun m => (m.top, m.id, m.verts))
    = some [(0, 0, [0, 2, 3, 0]), (0, 1, [2, 1, 2, 0]), (1, 2, [0]), (1, 3, [2])] := by decide +kernel

/-- the tagged run of the same configuration: chunks are popped from the END of each column's partition list,
    and nothing is left over -/
example : (runCustomT [2, 2, 1] [[0, 1], [2]]
      (shuffled [[1, 2, 1], [1, 0, 0], [2, 1, 1], [0, 1, 0]] [[2, 0, 1], [1, 1, 0], [0]])).map (·.1)
    = some [(0, [(0, [0, 2]), (1, [3, 0])]), (0, [(0, [2, 1]), (1, [2, 0])]), (1, [(2, [0])]), (1, [(2, [2])])] := by
  decide +kernel
example : (runCustomT [2, 2, 1] [[0, 1], [2]]
      (shuffled [[1, 2, 1], [1, 0, 0], [2, 1, 1], [0, 1, 0]] [[2, 0, 1], [1, 1, 0], [0]])).map (·.2)
    = some [[], [], []] := by decide +kernel

/-- sharpness of the `balance` clause: column 0 has two chunks but column 1 only one, so the second instance of
    motif type 0 pops from an empty list (IndexError) -/
example : motifsCustom [2, 2] [[0, 1]] (fun _ vs => vs.length) (shuffled [[2, 1], [2, 1]] []) = none := by
  decide +kernel

end Gcmpy.Generate
