import GcmpyModel.Lemmas.RewireTarget
/-!
# C12 (continued) — every edge of the graph `rewire()` returns that it did not start with joins an allowed pairing

`Properties/C12.lean` speaks about one call of `swap_condition`.  With the model of the whole loop (`Model/Rewire.lean`)
the sentence of the property itself becomes a statement about what `rewire()` returns, for every script of draws, any
limits and both attribute assignments: "every edge that rewiring creates joins two vertices whose joint-excess-degree
pair has positive weight in the target matrix of that edge's topology; a pairing that is absent from (or zero in) the
target is never created".

Stated as: each entry of the final edge table is an entry of the input's table, or is an `AllowedEntry`
(`Lemmas/RewireTarget.lean`): its topology has an index and a matrix, and the matrix holds a non-zero weight for the
excess pair of its end points (`rewire_created_edges_allowed`); under a non-negative target the weight is positive
(`PositiveEntry`, `rewire_created_edges_positive`).  The weight is found in the orientation in which the swap looked it
up; the table key is normalised to `(min, max)` afterwards, so the orientation is one of the two (the targets in use are
symmetric).  Excess degrees are taken in the input network: vertex annotations never change (`rewire_invariants`).
-/
namespace Gcmpy.Rewire
open Gcmpy Gcmpy.Graph Gcmpy.MCMC

-- both restate the theorem of the same name in `Lemmas/RewireTarget.lean`, where it is proved

variable (cfg : Cfg) (G : Net) (evs : List DrawEv) (rs : List (Option Rat))

theorem rewire_created_edges_allowed (hWF : WF G) :
    ∀ p ∈ (rewire cfg G evs rs).st.G.edges, p ∈ G.edges ∨ AllowedEntry G cfg.names cfg.target p :=
  Lemmas.rewire_created_edges_allowed cfg G evs rs hWF

theorem rewire_created_edges_positive (hWF : WF G)
    (hnn : ∀ t ejk, Dict.get cfg.target t = some ejk → ∀ x ∈ ejk, 0 ≤ x.2) :
    ∀ p ∈ (rewire cfg G evs rs).st.G.edges, p ∈ G.edges ∨ PositiveEntry G cfg.names cfg.target p :=
  Lemmas.rewire_created_edges_positive cfg G evs rs hWF hnn

end Gcmpy.Rewire
