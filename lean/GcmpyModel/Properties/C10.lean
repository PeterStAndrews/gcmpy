import GcmpyModel.Lemmas.MPCC
import GcmpyModel.Lemmas.ListFacts
import GcmpyModel.Lemmas.Sublists
/-!
# C10 — MPCC labels partition the edges into maximal-first disjoint cliques

`MPCC` (gcmpy/covers/mpcc.py) is a greedy, maximal-first, edge-disjoint clique cover, and every edge ends up labelled
with (size, members, id) of the unique accepted clique containing it.

Inputs of the model: the edge list of a simple graph (`Simple`), `max_size`, and the clique list `L` as it is after
`shuffle`: any list satisfying `EnumeratesUpTo`, the part of the contract `Enumerates` of `nx.enumerate_all_cliques`
that concerns cliques within the size limit (`enumerates_upTo`).  The contract is invariant under permutation
(`order_irrelevant`), so every theorem holds for every shuffle outcome.
`cov = cover edges maxSize L` is the list of accepted cliques in acceptance order.

Claim: the accepted cliques are listed cliques within the limit, in non-increasing size order and pairwise
edge-disjoint; a clique within the limit that is not accepted has lost a pair to an accepted clique at least as large
(`greedy_maximal`); for `max_size = 0` or `≥ 2` every edge lies in exactly one accepted clique and carries exactly its
label, ids being positions in `cov`; the edges of the graph are unchanged.
Assumed: the contract of `nx.enumerate_all_cliques` (the harness compares the list per instance with the brute-force
`allCliques`, which satisfies it: `allCliques_enumerates`).
Not proved: the spelling of the label string; the model keeps a label in parsed form (`Lab`).
`cover_edge_disjoint` and `label_complete` do not depend on `L` being a list of cliques.
-/
namespace Gcmpy.MPCC
open Gcmpy Gcmpy.Graph Gcmpy.Generate

/-- stability: cliques of equal size keep their shuffled order -/
theorem sortDesc_stable (L : List (List Nat)) (k : Nat) :
    (sortDesc L).filter (fun c => c.length = k) = L.filter (fun c => c.length = k) := by
  unfold sortDesc
  rw [List.filter_flatMap_key List.length ((List.reverse_perm _).nodup_iff.2 List.nodup_range)
    (fun _ _ _ hc => of_decide_eq_true (List.mem_filter.1 hc).2)]
  split
  · rfl
  · next h =>
    -- no member of `L` has a length outside the classes `sortDesc` concatenates
    refine (List.filter_eq_nil_iff.2 fun c hc hk => h ?_).symm
    rw [List.mem_reverse, List.mem_range, ← of_decide_eq_true hk]
    exact Nat.lt_succ_of_le ((List.foldl_max_zero_spec _).2 _ (List.mem_map_of_mem hc))

/-- a clique is counted in its own length class only, and that class is kept -/
theorem sortDesc_perm (L : List (List Nat)) : (sortDesc L).Perm L :=
  List.perm_iff_count.2 fun c => by
    rw [← List.count_filter (p := fun d => d.length = c.length) (l := sortDesc L) (by simp), sortDesc_stable,
      List.count_filter (by simp)]

theorem sortDesc_sorted (L : List (List Nat)) :
    (sortDesc L).Pairwise (fun a b => b.length ≤ a.length) := by
  unfold sortDesc
  rw [List.pairwise_flatMap]
  constructor
  · intro k _
    refine List.pairwise_of_forall_mem_list fun a ha b hb => ?_
    simp only [List.mem_filter, decide_eq_true_eq] at ha hb
    omega
  · rw [List.pairwise_reverse]
    apply List.Pairwise.imp _ List.pairwise_lt_range
    intro a b hab x hx y hy
    simp only [List.mem_filter, decide_eq_true_eq] at hx hy
    omega

theorem mem_sortDesc (L : List (List Nat)) (c : List Nat) : c ∈ sortDesc L ↔ c ∈ L :=
  (sortDesc_perm L).mem_iff

theorem cover_sublist {edges : List Edge} {maxSize : Nat} {L : List (List Nat)}
    (hL : EnumeratesUpTo edges maxSize L) :
    (∀ c ∈ cover edges maxSize L, c ∈ L ∧ IsClique edges c ∧ (maxSize > 0 → c.length ≤ maxSize)) ∧
    (cover edges maxSize L).Sublist (sortDesc L) ∧
    (cover edges maxSize L).Pairwise (fun a b => b.length ≤ a.length) := by
  have hsub : (cover edges maxSize L).Sublist (sortDesc L) := greedy_sublist
  refine ⟨?_, hsub, (sortDesc_sorted L).sublist hsub⟩
  intro c hc
  have hcL : c ∈ L := (mem_sortDesc L c).1 (hsub.subset hc)
  exact ⟨hcL, hL.1 c hcL, greedy_size c hc⟩

theorem cover_edge_disjoint {edges : List Edge} {maxSize : Nat} {L : List (List Nat)}
    (hL : EnumeratesUpTo edges maxSize L) :
    (cover edges maxSize L).Pairwise (fun c d => ∀ a b, HasPair c a b → ¬ HasPair d a b) :=
  greedy_disjoint

theorem greedy_maximal {edges : List Edge} {maxSize : Nat} {L : List (List Nat)}
    (hL : EnumeratesUpTo edges maxSize L) :
    ∀ c, IsClique edges c → 2 ≤ c.length → (maxSize = 0 ∨ c.length ≤ maxSize) →
      ∃ d ∈ cover edges maxSize L, c.length ≤ d.length ∧ ∃ a b, HasPair c a b ∧ HasPair d a b := by
  intro c hc hl hsz
  obtain ⟨d, hdL, hdc⟩ := hL.2 c hc hl hsz
  have hlen : d.length = c.length := hdc.length_eq
  obtain ⟨x, y, hxy⟩ := exists_hasPair hc.1 hl
  -- otherwise the listed copy `d` of `c` is unclaimed, hence accepted, and serves itself
  refine Classical.byContradiction fun hno => hno ⟨d, ?_, by omega, x, y, hxy, (hasPair_perm hdc x y).2 hxy⟩
  exact greedy_mem_of_unclaimed maxSize (sortDesc L) edges (fun c hc => (hL.1 c ((mem_sortDesc L c).1 hc)).1)
    (sortDesc_sorted L) d ((mem_sortDesc L d).2 hdL) (by omega)
    (fun a b hab => (hL.1 d hdL).2 a hab.1 b hab.2.1 hab.2.2)
    fun d' hd' hl' a b hab hd'ab => hno ⟨d', hd', by omega, a, b, (hasPair_perm hdc a b).1 hab, hd'ab⟩

/-! ### every edge is covered (the 2-clique instance of `greedy_maximal`), by exactly one accepted clique -/

theorem every_edge_covered {edges : List Edge} {maxSize : Nat} {L : List (List Nat)}
    (hs : Simple edges) (hL : EnumeratesUpTo edges maxSize L) (hm : maxSize = 0 ∨ 2 ≤ maxSize) :
    ∀ e ∈ edges, ∃ c ∈ cover edges maxSize L, HasPair c e.1 e.2 := by
  intro e he
  have hne : e.1 ≠ e.2 := hs.2.1 e he
  obtain ⟨d, hd, _, a, b, hab, hdab⟩ := greedy_maximal (maxSize := maxSize) hL [e.1, e.2]
    (isClique_pair hne (hasEdge_iff.2 (Or.inl he))) (Nat.le_refl 2) hm
  refine ⟨d, hd, ?_⟩
  rcases hab.eq_pair (Nat.le_refl 2) with h | h
  · obtain ⟨rfl, rfl⟩ : e.1 = a ∧ e.2 = b := by simpa using h
    exact hdab
  · obtain ⟨rfl, rfl⟩ : e.1 = b ∧ e.2 = a := by simpa using h
    exact hdab.symm

theorem edge_in_exactly_one {edges : List Edge} {maxSize : Nat} {L : List (List Nat)}
    (hs : Simple edges) (hL : EnumeratesUpTo edges maxSize L) (hm : maxSize = 0 ∨ 2 ≤ maxSize) :
    ∀ e ∈ edges, ∃ (id : Nat) (c : List Nat), (cover edges maxSize L)[id]? = some c ∧ HasPair c e.1 e.2 ∧
      ∀ (id' : Nat) (c' : List Nat), (cover edges maxSize L)[id']? = some c' → HasPair c' e.1 e.2 → id' = id := by
  intro e he
  obtain ⟨c, hc, hce⟩ := every_edge_covered hs hL hm e he
  obtain ⟨id, hid⟩ := List.mem_iff_getElem?.1 hc
  refine ⟨id, c, hid, hce, ?_⟩
  exact fun id' c' hid' hc'e =>
    EdgeDisjoint.index_unique (cover_edge_disjoint (maxSize := maxSize) hL) hid' hid hc'e hce

/-- all pairs of an accepted clique carry its label (size = member count, members, id = position) -/
theorem label_complete {edges : List Edge} {maxSize : Nat} {L : List (List Nat)}
    (hL : EnumeratesUpTo edges maxSize L) {id : Nat} {c : List Nat}
    (hc : (cover edges maxSize L)[id]? = some c) :
    ∀ a b, HasPair c a b →
      Dict.get (labelMap (cover edges maxSize L)) (normE (a, b)) = some ⟨c.length, c, id⟩ :=
  fun _ _ hab => labelMap_complete (cover_edge_disjoint hL) hc hab

theorem label_of_edge {edges : List Edge} {maxSize : Nat} {L : List (List Nat)}
    (hs : Simple edges) (hL : EnumeratesUpTo edges maxSize L) (hm : maxSize = 0 ∨ 2 ≤ maxSize) :
    ∀ e ∈ edges, ∃ (c : List Nat) (id : Nat), (cover edges maxSize L)[id]? = some c ∧ HasPair c e.1 e.2 ∧
      Dict.get (labelMap (cover edges maxSize L)) (normE e) = some ⟨c.length, c, id⟩ := by
  intro e he
  obtain ⟨id, c, hid, hce, _⟩ := edge_in_exactly_one hs hL hm e he
  exact ⟨c, id, hid, hce, label_complete hL hid e.1 e.2 hce⟩

theorem label_sound {edges : List Edge} {maxSize : Nat} {L : List (List Nat)}
    (hL : EnumeratesUpTo edges maxSize L) {k : Edge} {l : Lab}
    (h : Dict.get (labelMap (cover edges maxSize L)) k = some l) :
    (cover edges maxSize L)[l.id]? = some l.members ∧ l.size = l.members.length ∧
      ∃ a b, HasPair l.members a b ∧ k = normE (a, b) :=
  labelMap_sound (fun c hc => ((cover_sublist hL).1 c hc).2.1.1) h

/-- ids are positions in the cover: two stored labels with the same id are the same label (same members,
    same size), i.e. the id identifies the motif -/
theorem ids_unique {edges : List Edge} {maxSize : Nat} {L : List (List Nat)}
    (hL : EnumeratesUpTo edges maxSize L) {k k' : Edge} {l l' : Lab}
    (h : Dict.get (labelMap (cover edges maxSize L)) k = some l)
    (h' : Dict.get (labelMap (cover edges maxSize L)) k' = some l') (hid : l.id = l'.id) : l = l' := by
  obtain ⟨h1, h2, _⟩ := label_sound hL h
  obtain ⟨h1', h2', _⟩ := label_sound hL h'
  rw [hid, h1'] at h1
  have hm : l'.members = l.members := Option.some.inj h1
  cases l; cases l'
  simp only at hid hm h2 h2'
  simp only [Lab.mk.injEq]
  exact ⟨by rw [h2, h2', hm], hm.symm, hid⟩

theorem same_id_iff_same_clique {edges : List Edge} {maxSize : Nat} {L : List (List Nat)}
    (hL : EnumeratesUpTo edges maxSize L) {id : Nat} {c : List Nat}
    (hc : (cover edges maxSize L)[id]? = some c) {k : Edge} {l : Lab}
    (h : Dict.get (labelMap (cover edges maxSize L)) k = some l) :
    l.id = id ↔ ∃ a b, HasPair c a b ∧ k = normE (a, b) := by
  constructor
  · intro hid
    obtain ⟨h1, _, h3⟩ := label_sound hL h
    rw [hid, hc] at h1
    rw [← Option.some.inj h1] at h3
    exact h3
  · rintro ⟨a, b, hab, rfl⟩
    rw [label_complete hL hc a b hab] at h
    rw [← Option.some.inj h]

theorem label_size_limit {edges : List Edge} {maxSize : Nat} {L : List (List Nat)}
    (hL : EnumeratesUpTo edges maxSize L) {k : Edge} {l : Lab}
    (h : Dict.get (labelMap (cover edges maxSize L)) k = some l) :
    2 ≤ l.size ∧ (maxSize > 0 → l.size ≤ maxSize) := by
  obtain ⟨h1, h2, a, b, hab, _⟩ := label_sound hL h
  have hmem : l.members ∈ cover edges maxSize L := List.mem_iff_getElem?.2 ⟨_, h1⟩
  have hcs := (cover_sublist hL).1 _ hmem
  exact ⟨h2 ▸ hab.two_le_length, fun hm => h2 ▸ hcs.2.2 hm⟩

theorem mpcc_graph_unchanged (edges : List Edge) (maxSize : Nat) (L : List (List Nat)) :
    (mpcc edges maxSize L).map (·.1) = edges.map normE := by
  simp [mpcc]

theorem mpcc_output {edges : List Edge} {maxSize : Nat} {L : List (List Nat)}
    (hs : Simple edges) (hL : EnumeratesUpTo edges maxSize L) (hm : maxSize = 0 ∨ 2 ≤ maxSize) :
    ∀ x ∈ mpcc edges maxSize L, ∃ e ∈ edges, ∃ (c : List Nat) (id : Nat), x = (normE e, some ⟨c.length, c, id⟩) ∧
      (cover edges maxSize L)[id]? = some c ∧ HasPair c e.1 e.2 := by
  intro x hx
  simp only [mpcc, List.mem_map] at hx
  obtain ⟨e, he, rfl⟩ := hx
  obtain ⟨c, id, hid, hce, hl⟩ := label_of_edge hs hL hm e he
  exact ⟨e, he, c, id, by rw [hl], hid, hce⟩

theorem order_irrelevant {edges : List Edge} {maxSize : Nat} {L L' : List (List Nat)}
    (hL : EnumeratesUpTo edges maxSize L) (hp : L'.Perm L) : EnumeratesUpTo edges maxSize L' :=
  ⟨fun c hc => hL.1 c (hp.mem_iff.1 hc),
   fun c hc hl hsz => let ⟨d, hd, hdc⟩ := hL.2 c hc hl hsz; ⟨d, hp.mem_iff.2 hd, hdc⟩⟩

/-- the full output of `nx.enumerate_all_cliques` satisfies the contract for every limit, and so does what is left of it
    after dropping the cliques above a positive limit (which the acceptance loop would skip) -/
theorem enumerates_upTo {edges : List Edge} {L : List (List Nat)} (hL : Enumerates edges L) (maxSize : Nat) :
    EnumeratesUpTo edges maxSize L ∧
    (0 < maxSize → EnumeratesUpTo edges maxSize (L.filter fun c => c.length ≤ maxSize)) := by
  refine ⟨⟨hL.1, fun c hc hl _ => hL.2 c hc hl⟩,
    fun hpos => ⟨fun c hc => hL.1 c (List.mem_filter.1 hc).1, ?_⟩⟩
  intro c hc hl hsz
  obtain ⟨d, hd, hdc⟩ := hL.2 c hc hl
  refine ⟨d, List.mem_filter.2 ⟨hd, ?_⟩, hdc⟩
  have : d.length = c.length := hdc.length_eq
  simp only [decide_eq_true_eq]
  omega

theorem mem_allCliques {es : List Edge} {nodes : List Nat} (hnod : nodes.Nodup) {c : List Nat} :
    c ∈ allCliques es nodes ↔ c.Sublist nodes ∧ c ≠ [] ∧ IsClique es c := by
  simp only [allCliques, List.mem_filter, mem_sublists_iff, decide_eq_true_eq, and_congr_right_iff]
  exact fun hs _ => allPairsPresent_iff_isClique (hs.nodup hnod)

/-- the brute-force enumeration used by the harness satisfies the contract -/
theorem allCliques_enumerates (es : List Edge) (nodes : List Nat) (hnod : nodes.Nodup)
    (hv : ∀ e ∈ es, e.1 ∈ nodes ∧ e.2 ∈ nodes) : Enumerates es (allCliques es nodes) := by
  refine ⟨fun c hc => ((mem_allCliques hnod).1 hc).2.2, fun c hc hl => ?_⟩
  -- every vertex of `c` has a neighbour in `c`, so it is a node; `c` is listed in node order
  have hsub : ∀ a ∈ c, a ∈ nodes := by
    intro a ha
    obtain ⟨x, y, hx, hy, hxy⟩ := exists_hasPair hc.1 hl
    obtain ⟨b, hb, hab⟩ : ∃ b ∈ c, a ≠ b :=
      (Classical.em (a = x)).elim (fun h => ⟨y, hy, h ▸ hxy⟩) fun h => ⟨x, hx, h⟩
    exact (hasEdge_iff.1 (hc.2 a ha b hb hab)).elim (fun h => (hv _ h).1) fun h => (hv _ h).2
  have hperm : (nodes.filter (· ∈ c)).Perm c :=
    (List.perm_ext_iff_of_nodup (List.filter_sublist.nodup hnod) hc.1).2 fun a => by
      simpa [List.mem_filter] using hsub a
  refine ⟨_, (mem_allCliques hnod).2 ⟨List.filter_sublist, fun h => ?_, hperm.nodup_iff.2 hc.1, fun a ha b hb =>
    hc.2 a (hperm.mem_iff.1 ha) b (hperm.mem_iff.1 hb)⟩, hperm⟩
  rw [h] at hperm
  exact absurd hperm.length_eq.symm (by rw [List.length_nil]; omega)

/-- two triangles `{0,1,2}`, `{1,2,3}` sharing the edge `1-2` -/
def twoTriangles : List Edge := [(0, 1), (0, 2), (1, 2), (1, 3), (2, 3)]

example : Simple twoTriangles := by decide +kernel

example : allCliques twoTriangles [0, 1, 2, 3] =
    [[3], [2], [2, 3], [1], [1, 3], [1, 2], [1, 2, 3], [0], [0, 2], [0, 1], [0, 1, 2]] := by decide +kernel

example : Enumerates twoTriangles (allCliques twoTriangles [0, 1, 2, 3]) :=
  allCliques_enumerates _ _ (by decide +kernel) (by decide +kernel)

/-- maximal-first: the triangle listed first among the triangles wins the shared edge; the other triangle
    is then covered by its two remaining edges; singletons are accepted too and consume ids -/
example : cover twoTriangles 0 (allCliques twoTriangles [0, 1, 2, 3]) =
    [[1, 2, 3], [0, 2], [0, 1], [3], [2], [1], [0]] := by decide +kernel

example : mpcc twoTriangles 0 (allCliques twoTriangles [0, 1, 2, 3]) =
    [((0, 1), some ⟨2, [0, 1], 2⟩), ((0, 2), some ⟨2, [0, 2], 1⟩), ((1, 2), some ⟨3, [1, 2, 3], 0⟩),
     ((1, 3), some ⟨3, [1, 2, 3], 0⟩), ((2, 3), some ⟨3, [1, 2, 3], 0⟩)] := by decide +kernel

/-- a different shuffle outcome (the other triangle first) gives the mirror cover -/
example : cover twoTriangles 0 [[0], [0, 1, 2], [1, 2], [2, 3], [1, 2, 3], [0, 1], [1], [1, 3], [2], [0, 2], [3]] =
    [[0, 1, 2], [2, 3], [1, 3], [0], [1], [2], [3]] := by decide +kernel

/-- `max_size = 2`: triangles are disregarded, every edge is its own clique -/
example : mpcc twoTriangles 2 (allCliques twoTriangles [0, 1, 2, 3]) =
    [((0, 1), some ⟨2, [0, 1], 4⟩), ((0, 2), some ⟨2, [0, 2], 3⟩), ((1, 2), some ⟨2, [1, 2], 2⟩),
     ((1, 3), some ⟨2, [1, 3], 1⟩), ((2, 3), some ⟨2, [2, 3], 0⟩)] := by decide +kernel

/-- the hypothesis `maxSize = 0 ∨ 2 ≤ maxSize` of `every_edge_covered` is needed: with `max_size = 1`
    only singletons are accepted and no edge is labelled -/
example : mpcc twoTriangles 1 (allCliques twoTriangles [0, 1, 2, 3]) =
    [((0, 1), none), ((0, 2), none), ((1, 2), none), ((1, 3), none), ((2, 3), none)] := by decide +kernel

end Gcmpy.MPCC
