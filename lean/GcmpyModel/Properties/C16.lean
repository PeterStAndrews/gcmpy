import GcmpyModel.Properties.C16Counts
import GcmpyModel.Properties.C15
import GcmpyModel.Lemmas.CycleExact
import GcmpyModel.Lemmas.CliqueExact
/-
Property C16, the two closed-form equations (`gcmpy/message_passing/equations/clique_equation.py`,
`equations/chordless_cycle_equation.py`; model: `Model/ClosedForms.lean`; the graph counts behind them:
`Properties/C16Counts.lean`).

* `omega_closed`                        the interface-edge count is `(κ+1)(τ-κ-1)`;
* `cycle_closed_form`, `cycle_exact`    the chordless-cycle closed form IS the automated equation on `C_n` (= by C15 the
                                        exact bond-percolation expectation), every `n ≥ 3`, every commutative ring
                                        (`cycleGraph` and the combinatorics of the cycle: `Lemmas/CycleExact.lean`);
* `esym_spec`, `clique_expanded`, `automated_clique`, `clique_exact`
                                        the clique closed form IS the automated equation on `K_τ`, every `τ ≥ 1`
                                        (`Lemmas/CliqueExact.lean` and `Q_eq_connCount`).
-/
namespace Gcmpy.ClosedForms
open Gcmpy Gcmpy.Graph Gcmpy.Automated

/-- `omega(τ, κ)`: a component of `κ+1` vertices of a `τ`-clique has `(κ+1)(τ-κ-1)` interface edges -/
theorem omega_closed (tau kappa : Nat) (h : kappa < tau) :
    omega tau kappa = (kappa + 1) * (tau - kappa - 1) := by
  unfold omega
  simp only
  rw [sum_range_sub tau _ (by omega), Nat.add_sub_cancel, Nat.mul_comm]
  congr 1; omega

section commRing
variable {R : Type} [CommRing R]

/-- `chordless_cycle_equation(n, u, φ)` in textbook form: the root's component is an arc of `s` vertices
(`s` positions, `s - 1` open edges, both boundary edges closed), or the whole cycle (all edges open, or exactly one
of the `n` edges closed) -/
theorem cycle_closed_form (n : Nat) (hn : 3 ≤ n) (u φ : R) :
    chordlessCycle n u φ
      = (∑ s ∈ Finset.Icc 1 (n - 1), (s : R) * (φ * u) ^ (s - 1) * (1 - φ) ^ 2)
        + u ^ (n - 1) * (φ ^ n + (n : R) * φ ^ (n - 1) * (1 - φ)) := by
  obtain ⟨m, rfl⟩ : ∃ m, n = m + 3 := ⟨n - 3, by omega⟩
  -- over the arc sizes `s = 1 … n-1`: `s = 1` is the leading `(1-φ)^2` of the code,
  -- `s = i + 2` the term of its loop index `i`
  have hsum : ∑ s ∈ Finset.Icc 1 (m + 3 - 1), (s : R) * (φ * u) ^ (s - 1) * (1 - φ) ^ 2
      = (1 - φ) ^ 2 + ∑ i ∈ Finset.range (m + 1), ((i + 1 + 1 : Nat) : R) * (φ * u) ^ (i + 1) * (1 - φ) ^ 2 := by
    have hI : Finset.Icc 1 (m + 3 - 1) = Finset.Ico 1 (m + 1 + 1 + 1) := by
      ext x; simp only [Finset.mem_Icc, Finset.mem_Ico]; omega
    rw [hI, Finset.sum_Ico_eq_sum_range, Nat.add_sub_cancel, Finset.sum_range_succ', add_comm]
    congr 1
    · simp
    · refine Finset.sum_congr rfl fun i _ => ?_
      rw [show 1 + (i + 1) = i + 1 + 1 by omega, Nat.add_sub_cancel]
  unfold chordlessCycle
  simp only [powN_eq_pow, List.foldl_map, Int.cast_natCast]
  rw [foldl_add_range (fun i => (((i + 1 + 1 : Nat) : R)) * (φ * u) ^ (i + 1) * (1 - φ) ^ 2), hsum,
    show m + 3 - 2 = m + 1 by omega]
  push_cast
  ring

/-- the statement of `cycle_exact` -/
def cycle_exact_full : Prop :=
  ∀ (R : Type) [CommRing R] (n : Nat) (φ u : R), 3 ≤ n →
    chordlessCycle n u φ = automatedEquation (cycleGraph n) φ (fun _ => u) 0

/-- **C16, chordless cycle.** For every `n ≥ 3` and over every commutative ring, `chordless_cycle_equation(n, u, φ)`
equals `automated_equation` on the cycle `C_n` rooted at `0` with all `u` equal — hence, by C15 (`automated_exact`),
the exact bond-percolation expectation of `u^(|component of the root| - 1)` on `C_n`. -/
theorem cycle_exact : cycle_exact_full := by
  intro R _ n φ u hn
  rw [cycle_closed_form n hn u φ, automated_cycle hn φ u]

/-- consequence (with C15): the closed form is the exact expectation `exactE` on `C_n` -/
theorem cycle_closed_eq_exactE {R : Type} [CommRing R] (n : Nat) (hn : 3 ≤ n) (φ u : R) :
    chordlessCycle n u φ = exactE (cycleGraph n) φ (fun _ => u) 0 := by
  rw [cycle_exact R n φ u hn]
  exact automated_exact _ (cycleGraph_wf (by omega)) (cycleGraph_simple hn) (List.mem_range.2 (by omega)) φ _

/-- `esym Hs κ` is the elementary symmetric polynomial: the sum over the `κ`-element sublists of their products -/
theorem esym_spec (Hs : List R) (kappa : Nat) :
    esym Hs kappa = ((combinations kappa Hs).map List.prod).sum := by
  unfold esym
  rw [← List.sum_eq_foldl]
  congr 1
  apply List.map_congr_left
  intro c _
  rw [← List.prod_eq_foldl]

theorem clique_expanded (tau : Nat) (φ : R) (Hs : List R) :
    cliqueEquation tau φ Hs
      = ∑ κ ∈ Finset.range tau, esym Hs κ *
          ∑ m ∈ Finset.range (κ * (κ - 1) / 2 + 1),
            ((Q (κ + 1) (κ * (κ + 1) / 2 - m) : Int) : R) * φ ^ (κ * (κ + 1) / 2 - m)
              * (1 - φ) ^ ((κ + 1) * (tau - κ - 1) + m) := by
  unfold cliqueEquation
  simp only [powN_eq_pow, foldl_add_range, zero_add]
  apply Finset.sum_congr rfl
  intro κ hκ
  rw [omega_closed tau κ (Finset.mem_range.1 hκ), Finset.mul_sum]
  apply Finset.sum_congr rfl
  intro m _
  ring

/-- the statement of `clique_exact` (`Hs` = the `u` of the vertices other than the root `0`) -/
def clique_exact_full : Prop :=
  ∀ (R : Type) [CommRing R] (tau : Nat) (φ : R) (u : Nat → R), 1 ≤ tau →
    cliqueEquation tau φ ((List.range (tau - 1)).map fun i => u (i + 1))
      = automatedEquation (completeGraph tau) φ u 0

/-- **C16, clique: the automated equation on `K_τ`** rooted at `0`: the root component has `κ+1` vertices
(`e_κ(u 1, …, u (τ-1))` accounts for which ones), `j` open edges forming one of the `connCount (κ+1) j` connected
graphs on them, and the remaining `κ(κ+1)/2 - j` inner edges and `(κ+1)(τ-κ-1)` boundary edges closed -/
theorem automated_clique (tau : Nat) (h : 1 ≤ tau) (φ : R) (u : Nat → R) :
    automatedEquation (completeGraph tau) φ u 0
      = ∑ κ ∈ Finset.range tau, esym ((List.range (tau - 1)).map fun i => u (i + 1)) κ *
          ∑ j ∈ Finset.range (κ * (κ + 1) / 2 + 1),
            (connCount (κ + 1) j : R) * φ ^ j * (1 - φ) ^ (κ * (κ + 1) / 2 - j + (κ + 1) * (tau - κ - 1)) := by
  simp only [esym_spec, connCount_eq_ccN _ _ (Nat.succ_pos _)]
  exact automated_clique_ccN h φ u

/-- the inner sum of `clique_expanded` (indexed by the number `m` of closed inner edges, `Q` as counter) is the inner
sum of `automated_clique` (indexed by the number `j` of open inner edges, `connCount` as counter); the extra terms
`j < κ` vanish -/
theorem inner_sum_reindex (tau κ : Nat) (φ : R) :
    ∑ m ∈ Finset.range (κ * (κ - 1) / 2 + 1),
        ((Q (κ + 1) (κ * (κ + 1) / 2 - m) : Int) : R) * φ ^ (κ * (κ + 1) / 2 - m)
          * (1 - φ) ^ ((κ + 1) * (tau - κ - 1) + m)
      = ∑ j ∈ Finset.range (κ * (κ + 1) / 2 + 1),
          (connCount (κ + 1) j : R) * φ ^ j * (1 - φ) ^ (κ * (κ + 1) / 2 - j + (κ + 1) * (tau - κ - 1)) := by
  have hcR : ∀ j, (connCount (κ + 1) j : R) = ((Q (κ + 1) j : Int) : R) := fun j => by
    rw [Q_eq_connCount (κ + 1) j (Nat.succ_pos _), Int.cast_natCast]
  have hh : κ * (κ + 1) / 2 = κ * (κ - 1) / 2 + κ := by
    have := Nat.triangle_succ κ
    rwa [Nat.add_sub_cancel, Nat.mul_comm] at this
  rw [hh]
  generalize κ * (κ - 1) / 2 = M
  generalize (κ + 1) * (tau - κ - 1) = B
  rw [← Finset.sum_range_reflect (fun j => (connCount (κ + 1) j : R) * φ ^ j * (1 - φ) ^ (M + κ - j + B))
    (M + κ + 1)]
  have hsub : Finset.range (M + 1) ⊆ Finset.range (M + κ + 1) := by
    intro m hm
    rw [Finset.mem_range] at hm ⊢; omega
  rw [← Finset.sum_subset hsub]
  · apply Finset.sum_congr rfl
    intro m hm
    rw [Finset.mem_range] at hm
    have e1 : M + κ + 1 - 1 - m = M + κ - m := by omega
    have e2 : M + κ - (M + κ - m) + B = B + m := by omega
    rw [e1, e2, hcR]
  · intro m hm hm'
    rw [Finset.mem_range] at hm hm'
    have : Q (κ + 1) (M + κ + 1 - 1 - m) = 0 := Q_zero_below (by omega)
    rw [hcR, this]
    simp

/-- **C16, clique.** For every `τ ≥ 1` and over every commutative ring
`clique_equation(τ, φ, [u 1, …, u (τ-1)])` equals `automated_equation` on the clique `K_τ` rooted at `0` —
hence, by C15 (`automated_exact`), the exact bond-percolation expectation of the product of `u` over the other vertices
of the root's open component.
Proof: `clique_expanded`, `automated_clique`, and `Q_eq_connCount` inside `inner_sum_reindex`. -/
theorem clique_exact : clique_exact_full := by
  intro R _ tau φ u htau
  rw [clique_expanded, automated_clique tau htau φ u]
  refine Finset.sum_congr rfl fun κ _ => ?_
  rw [inner_sum_reindex]

theorem clique_exact_le12 {R : Type} [CommRing R] (tau : Nat) (h1 : 1 ≤ tau) (h12 : tau ≤ 12) (φ : R) (u : Nat → R) :
    cliqueEquation tau φ ((List.range (tau - 1)).map fun i => u (i + 1))
      = automatedEquation (completeGraph tau) φ u 0 :=
  clique_exact R tau φ u h1

theorem clique_exact_small {R : Type} [CommRing R] (tau : Nat) (h1 : 1 ≤ tau) (h5 : tau ≤ 5) (φ : R) (u : Nat → R) :
    cliqueEquation tau φ ((List.range (tau - 1)).map fun i => u (i + 1))
      = automatedEquation (completeGraph tau) φ u 0 :=
  clique_exact R tau φ u h1

/-- consequence (with C15): the closed form is the exact expectation `exactE` on `K_τ` -/
theorem clique_closed_eq_exactE (hQ : Q_eq_connCount_full) {R : Type} [CommRing R] (tau : Nat) (h : 1 ≤ tau)
    (φ : R) (u : Nat → R) :
    cliqueEquation tau φ ((List.range (tau - 1)).map fun i => u (i + 1)) = exactE (completeGraph tau) φ u 0 := by
  rw [clique_exact R tau φ u h]
  exact automated_exact _ (completeGraph_wf tau) (completeGraph_simple tau)
    (List.mem_range.2 h) φ u

end commRing

/-- `(completeGraph n).edges.toFinset`, i.e. `HP.pairs (range n)` -/
def KE (n : Nat) : Finset Edge := (completeGraph n).edges.toFinset

/-- `HP.Conn` at `V = Nat` -/
def Conn (S : Finset Nat) (F : Finset Edge) : Prop := ∀ a ∈ S, ∀ b ∈ S, Perc.Reach F a b

noncomputable instance Conn.dec (S : Finset Nat) (F : Finset Edge) : Decidable (Conn S F) :=
  Classical.propDecidable _

/-- **relabelling**: for every vertex set `S` of `K_τ`, the number of connected spanning edge subsets with `j` edges of
the subgraph induced on `S` is the number of connected labelled graphs on `|S|` vertices with `j` edges -/
theorem connCount_induced {tau : Nat} {S : Finset Nat} (hS : S ⊆ Finset.range tau) (hne : S.Nonempty) (j : Nat) :
    ((Perc.inner (KE tau) S).powerset.filter fun F => F.card = j ∧ Conn S F).card = connCount S.card j := by
  rw [connCount_eq_ccN _ _ (Finset.card_pos.2 hne), ← HP.cc_eq_ccN, KE, completeGraph_edges_toFinset,
    HP.inner_pairs hS, HP.powerset_filter_card_and]
  unfold HP.cc
  congr 1

/-- the docstring test vector of `QQ(6, ·)`, reproduced by `Q` -/
example : (List.range 16).map (Q 6) = [0,0,0,0,0,1296,3660,5700,6165,4945,2997,1365,455,105,15,1] := by
  decide +kernel
example : (List.range 7).map (QQ 4) = [0, 0, 0, 16, 15, 6, 1] := by decide +kernel
example : (List.range 5).map (omega 5) = [4, 6, 6, 4, 0] := by decide +kernel
example : chordlessCycle 3 (2 : Int) 3 = -56 := by decide +kernel
/-- closed form = automated equation at an integer point (`φ = 5`, `u v = 3v + 2`), `K_4` and `C_5` -/
example : cliqueEquation 4 (5 : Int) [5, 8, 11]
    = automatedEquation (completeGraph 4) (5 : Int) (fun v => 3 * (v : Int) + 2) 0 := by
  decide +kernel
example : chordlessCycle 5 (7 : Int) 5 = automatedEquation (cycleGraph 5) (5 : Int) (fun _ => 7) 0 := by decide +kernel
/-- number of ways to delete one edge of a triangle and stay connected -/
example : numberOfConnectedGraphs ⟨[0,1,2,3], [(0,1),(1,2),(0,2),(2,3)]⟩ [1,2] 0 1 = 3 := by decide +kernel

end Gcmpy.ClosedForms
