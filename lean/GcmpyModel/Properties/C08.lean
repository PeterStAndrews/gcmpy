import GcmpyModel.Lemmas.Cover
/-!
Property C08: `JointDegreeCover` (repaired code) on a cover whose vertex ids are contiguous from 0 or 1.
`Contiguous`, `cliqueCount` are defined in `GcmpyModel/Lemmas/Cover.lean`.
-/
namespace Gcmpy.Cover
open Gcmpy Gcmpy.Loaders

variable {cover : List (List Nat)} {z n : Nat}

/-- the detected index base is the real one -/
theorem zeroIndex_eq (h : Contiguous cover z n) : zeroIndex cover = some z := by
  have hmin : (vertexIds cover).min? = some z := by
    rw [List.min?_eq_some_iff]
    refine ⟨?_, ?_⟩
    · rw [mem_vertexIds, h.mem_iff z]; have := h.pos; omega
    · intro b hb
      rw [mem_vertexIds, h.mem_iff b] at hb; exact hb.1
  unfold zeroIndex
  rw [hmin]
  rcases h.base with h0 | h1
  · subst h0; simp
  · subst h1; simp

/-- one counter row per vertex -/
theorem vertexIds_length (h : Contiguous cover z n) : (vertexIds cover).length = n := by
  rw [(vertexIds_perm h).length_eq, List.length_range']

/-- the reported motif sizes are exactly the clique sizes that occur, ascending, without repeats
(holds for every cover) -/
theorem motif_sizes_spec (cover : List (List Nat)) :
    (motifSizes cover).Pairwise (· < ·) ∧
      ∀ s, s ∈ motifSizes cover ↔ ∃ c ∈ cover, c.length = s :=
  ⟨motifSizes_pairwise cover, fun _ => mem_motifSizes⟩

/-- the counting loop raises no IndexError and entry (v, s-1) is the number of cliques of size s
containing v -/
theorem counts_before_drop (h : Contiguous cover z n) :
    ∃ jds0, countAll z cover (List.replicate n (List.replicate (largest cover) 0)) = some jds0 ∧
      jds0.length = n ∧ (∀ r ∈ jds0, r.length = largest cover) ∧
      ∀ v s, z ≤ v → v < z + n → 1 ≤ s → s ≤ largest cover →
        (jds0.getD (v - z) []).getD (s - 1) 0 = cliqueCount cover s v := by
  obtain ⟨jds0, e, s, f⟩ := counts_spec h
  exact ⟨jds0, e, s.1, s.mem_length, fun v s' hv _ hs _ =>
    (f (v - z) (s' - 1)).trans (by rw [Nat.sub_add_cancel hs, Nat.sub_add_cancel hv])⟩

/-- `coverJds` in closed form: every counter row restricted to the columns `s-1`, `s ∈ motifSizes` -/
theorem coverJds_eq {cover : List (List Nat)} {z n : Nat} (h : Contiguous cover z n) :
    ∃ jds0, countAll z cover (List.replicate n (List.replicate (largest cover) 0)) = some jds0 ∧
      Shape jds0 n (largest cover) ∧
      (∀ r c, entry jds0 r c = cliqueCount cover (c + 1) (r + z)) ∧
      coverJds cover =
        some (jds0.map fun r => (motifSizes cover).map fun s => r.getD (s - 1) 0) := by
  obtain ⟨jds0, e, s, f⟩ := counts_spec h
  refine ⟨jds0, e, s, f, ?_⟩
  have hkept : (List.range (largest cover)).filter (· ∉ zeroCols jds0 (largest cover))
      = (motifSizes cover).map (· - 1) :=
    kept_eq_map (motifSizes_pairwise cover)
      (fun s hs => by
        obtain ⟨q, hq, rfl⟩ := mem_motifSizes.1 hs
        exact ⟨(h.clique_ok q hq).1, (h.clique_ok q hq).2.1⟩)
      (fun i hi => by
        simp only [zeroCols, List.mem_filter, List.mem_range, zeroCol_iff h s f i]
        exact and_iff_right hi)
  simp only [coverJds, zeroIndex_eq h, vertexIds_length h, e]
  rw [dropCols_eq_map]
  congr 1
  refine List.map_congr_left fun r hr => ?_
  have hp : (zeroCols jds0 (largest cover)).Pairwise (· < ·) := List.Pairwise.filter _ List.pairwise_lt_range
  rw [foldr_eraseIdx_eq r hp (fun c hc => by
      rw [s.mem_length r hr]; exact List.mem_range.1 (List.mem_filter.1 hc).1),
    s.mem_length r hr, hkept, List.map_map]
  rfl

/-- per-vertex counters for the listed sizes; row `r` belongs to vertex `r + z` -/
def counts (cover : List (List Nat)) (z n : Nat) (sizes : List Nat) : List (List Nat) :=
  (List.range n).map fun r => sizes.map fun s => cliqueCount cover s (r + z)

/-- what `JointDegreeCover` tabulates, in closed form -/
theorem coverJds_eq_counts (h : Contiguous cover z n) :
    coverJds cover = some (counts cover z n (motifSizes cover)) := by
  obtain ⟨jds0, _, s, f, e⟩ := coverJds_eq h
  rw [e, List.map_eq_map_range _ [], s.1]
  refine congrArg some (List.map_congr_left fun k _ => List.map_congr_left fun s' hs' => ?_)
  obtain ⟨q, hq, rfl⟩ := mem_motifSizes.1 hs'
  exact (f k (q.length - 1)).trans (by rw [Nat.sub_add_cancel (h.clique_ok q hq).1])

/-- the loader succeeds; there is one row per vertex and one surviving column per occurring clique
size (`cover_counts` says that column `j` belongs to the `j`-th smallest occurring size) -/
theorem cover_columns (h : Contiguous cover z n) :
    ∃ jds, coverJds cover = some jds ∧ jds.length = n ∧
      ∀ r ∈ jds, r.length = (motifSizes cover).length :=
  ⟨_, coverJds_eq_counts h, by simp [counts], fun r hr => by
    obtain ⟨k, _, rfl⟩ := List.mem_map.1 hr
    exact List.length_map ..⟩

/-- row of vertex `v`, column of the `j`-th occurring size = number of cover cliques of that size
containing `v` -/
theorem cover_counts (h : Contiguous cover z n) {jds : List (List Nat)}
    (hj : coverJds cover = some jds) {v j : Nat} (hv1 : z ≤ v) (hv2 : v < z + n)
    (hjl : j < (motifSizes cover).length) :
    (jds.getD (v - z) []).getD j 0 = cliqueCount cover ((motifSizes cover).getD j 0) v := by
  obtain rfl := Option.some.inj ((coverJds_eq_counts h).symm.trans hj)
  have hr : v - z < n := by omega
  simp [counts, List.getD_eq_getElem?_getD, hr, hjl, Nat.sub_add_cancel hv1]

/-- the distribution is the frequency table of the rows -/
theorem cover_jdd {jds : List (List Nat)} (hj : coverJds cover = some jds) :
    coverJdd cover = some (empirical jds) := by
  simp [coverJdd, hj]

/-- handshake: the column of size `s` sums to `s ·` (number of cover cliques of size `s`) -/
theorem cover_handshake (h : Contiguous cover z n) {jds : List (List Nat)}
    (hj : coverJds cover = some jds) {j : Nat} (hjl : j < (motifSizes cover).length) :
    (jds.map (·.getD j 0)).sum =
      (motifSizes cover).getD j 0 *
        (cover.filter fun c => c.length = (motifSizes cover).getD j 0).length := by
  obtain rfl := Option.some.inj ((coverJds_eq_counts h).symm.trans hj)
  rw [counts, List.map_map, ← sum_cliqueCount cover _ fun q hq => (h.clique_ok q hq).2.2]
  refine congrArg List.sum (List.map_congr_left fun k _ => ?_)
  simp [List.getD_eq_getElem?_getD, hjl]

theorem cover_handshake_dvd (h : Contiguous cover z n) {jds : List (List Nat)}
    (hj : coverJds cover = some jds) {j : Nat} (hjl : j < (motifSizes cover).length) :
    (motifSizes cover).getD j 0 ∣ (jds.map (·.getD j 0)).sum :=
  ⟨_, cover_handshake h hj hjl⟩

/-- `cover_columns`, `cover_counts`, `cover_jdd`, `cover_handshake` in one statement -/
theorem cover_spec (h : Contiguous cover z n) :
    ∃ jds, coverJds cover = some jds ∧ coverJdd cover = some (empirical jds) ∧ jds.length = n ∧
      (∀ r ∈ jds, r.length = (motifSizes cover).length) ∧
      (∀ v j, z ≤ v → v < z + n → j < (motifSizes cover).length →
        (jds.getD (v - z) []).getD j 0 = cliqueCount cover ((motifSizes cover).getD j 0) v) ∧
      ∀ j, j < (motifSizes cover).length →
        (jds.map (·.getD j 0)).sum =
          (motifSizes cover).getD j 0 *
            (cover.filter fun c => c.length = (motifSizes cover).getD j 0).length := by
  obtain ⟨jds, e, hl, hr⟩ := cover_columns h
  exact ⟨jds, e, cover_jdd e, hl, hr, fun v j h1 h2 h3 => cover_counts h e h1 h2 h3,
    fun j hj => cover_handshake h e hj⟩

/-- sizes {2,5} (non-adjacent), ids 1..6 (1-based): columns are (size 2, size 5) -/
example : coverJds [[1, 2, 3, 4, 5], [5, 6], [1, 6]] =
    some [[1, 1], [0, 1], [0, 1], [0, 1], [1, 1], [2, 0]] := by decide +kernel

example : motifSizes [[1, 2, 3, 4, 5], [5, 6], [1, 6]] = [2, 5] := by decide

example : countAll 1 [[1, 2, 3, 4, 5], [5, 6], [1, 6]] (List.replicate 6 (List.replicate 5 0)) =
    some [[0, 1, 0, 0, 1], [0, 0, 0, 0, 1], [0, 0, 0, 0, 1], [0, 0, 0, 0, 1], [0, 1, 0, 0, 1],
      [0, 2, 0, 0, 0]] := by decide +kernel

example : Contiguous [[1, 2, 3, 4, 5], [5, 6], [1, 6]] 1 6 := by
  refine ⟨Or.inr rfl, by omega, by decide, by decide, ?_⟩
  intro v
  simp only [List.mem_cons, List.not_mem_nil, or_false, exists_eq_or_imp, exists_eq_left]
  omega

/-- 0-based ids, a vertex in two triangles -/
example : Contiguous [[0, 1, 2], [2, 3, 4], [0, 4]] 0 5 := by
  refine ⟨Or.inl rfl, by omega, by decide, by decide, ?_⟩
  intro v
  simp only [List.mem_cons, List.not_mem_nil, or_false, exists_eq_or_imp, exists_eq_left]
  omega

example : coverJds [[0, 1, 2], [2, 3, 4], [0, 4]] =
    some [[1, 1], [0, 1], [0, 2], [0, 1], [1, 1]] := by decide +kernel

/-- without contiguity the loader can raise: ids {1, 3} give two rows but row index 2 -/
example : coverJds [[1, 3]] = none := by decide +kernel

end Gcmpy.Cover
